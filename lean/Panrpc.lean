import Panrpc.Go.Prim
import Panrpc.Pinned
import Panrpc.Skeleton
import Panrpc.Generated.Current
import Panrpc.Model.Broadcaster
import Panrpc.Model.BroadcasterAbs
import Panrpc.Model.Callee
import Panrpc.Model.Convert
import Panrpc.Model.Endpoint
import Panrpc.Model.Lockset
import Panrpc.Model.Lookup
import Panrpc.Model.Reflect
import Panrpc.Model.Registry
import Panrpc.Model.RemoteDef
import Panrpc.Model.Stream
import Panrpc.Model.System
import Panrpc.Model.Wire
import Panrpc.Spec.Exposed
import Panrpc.Spec.Mailbox
import Panrpc.Lemmas.BcMailbox
import Panrpc.Lemmas.Broadcaster
import Panrpc.Lemmas.Callee
import Panrpc.Lemmas.CalleeCurrent
import Panrpc.Lemmas.Convert
import Panrpc.Lemmas.Endpoint
import Panrpc.Lemmas.EndpointClosure
import Panrpc.Lemmas.EndpointCurrent
import Panrpc.Lemmas.EndpointDeliv
import Panrpc.Lemmas.EndpointFatal
import Panrpc.Lemmas.EndpointLink
import Panrpc.Lemmas.EndpointLive
import Panrpc.Lemmas.EndpointProgress
import Panrpc.Lemmas.EndpointRuns
import Panrpc.Lemmas.Lockset
import Panrpc.Lemmas.Lookup
import Panrpc.Lemmas.LookupCurrent
import Panrpc.Lemmas.LookupZoo
import Panrpc.Lemmas.Mirror
import Panrpc.Lemmas.Registry
import Panrpc.Lemmas.RegistryCurrent
import Panrpc.Lemmas.RegistryInv
import Panrpc.Lemmas.RegistryLife
import Panrpc.Lemmas.RemoteDef
import Panrpc.Lemmas.Stream
import Panrpc.Lemmas.StreamParam
import Panrpc.Lemmas.System
import Panrpc.Lemmas.SystemLoop
import Panrpc.Lemmas.SystemProgress
import Panrpc.Lemmas.SystemRun
import Panrpc.Lemmas.SystemSafe
import Panrpc.Lemmas.SystemStep
import Panrpc.Lemmas.SystemStuck
import Panrpc.Lemmas.Wire
import Panrpc.Lemmas.WireCurrent
import Panrpc.Lemmas.WireParam
import Panrpc.Props.C01
import Panrpc.Props.C01Live
import Panrpc.Props.C02
import Panrpc.Props.C03
import Panrpc.Props.C04
import Panrpc.Props.C05
import Panrpc.Props.C05Callee
import Panrpc.Props.C05Deadlock
import Panrpc.Props.C06
import Panrpc.Props.C06Link
import Panrpc.Props.State
import Panrpc.Props.Foundation
import Panrpc.Props.C07
import Panrpc.Props.C08
import Panrpc.Props.C08Live
import Panrpc.Props.C08Frames
import Panrpc.Props.C08Param
import Panrpc.Props.C09
import Panrpc.Props.C10
import Panrpc.Props.C10Callee
import Panrpc.Props.C11
import Panrpc.Props.C12
import Panrpc.Props.C13
import Panrpc.Props.C14
import Panrpc.Props.C15
import Panrpc.Props.C15Reg
import Panrpc.Props.C16
import Panrpc.Props.C17
import Panrpc.Props.C18
import Panrpc.Props.C19
import Panrpc.Props.C19Mailbox
import Panrpc.Props.C19Sections
import Panrpc.Props.C20
import Panrpc.Props.Compose
