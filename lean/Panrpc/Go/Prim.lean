/-
  Go/Prim.lean — the few primitives every model shares.

  * `upd` : point update of a function-valued map (all tables, thread tables and
    channel tables in the models are total functions `Nat → α`; "absent" is `none`).
  * identifiers (call ids, closure ids, remote ids, channel generations) are `Nat`s
    handed out by counters: that *is* the freshness assumption for `uuid.NewString()`
    (trusted base, item 5 of DESIGN.md section 9).
  * `runFrom` : a run of a partial step function; every model's `run` is an instance, and so are its
    `reach_of_run` / `run_append` (`runFrom_invariant`, `runFrom_append`).
  * `inv_cases` : the case analysis over a model's step relation that the invariant-preservation proofs
    share (DESIGN.md section 3.4).
-/
namespace Panrpc

def upd {α : Type} (f : Nat → α) (k : Nat) (v : α) : Nat → α :=
  fun i => if i = k then v else f i

@[simp] theorem upd_same {α : Type} (f : Nat → α) (k : Nat) (v : α) : upd f k v k = v := by
  simp [upd]

@[simp] theorem upd_other {α : Type} (f : Nat → α) (k i : Nat) (v : α) (h : i ≠ k) :
    upd f k v i = f i := by
  simp [upd, h]

@[grind =] theorem upd_apply {α : Type} (f : Nat → α) (k i : Nat) (v : α) :
    upd f k v i = if i = k then v else f i := rfl

theorem upd_upd {α : Type} (f : Nat → α) (k : Nat) (a b : α) : upd (upd f k a) k b = upd f k b := by
  funext i; simp only [upd]; split <;> rfl

/-- a function applied after a point update is the point update of the composite -/
theorem map_upd {α β : Type} (F : α → β) (f : Nat → α) (k : Nat) (v : α) :
    (fun i => F (upd f k v i)) = upd (fun i => F (f i)) k (F v) := by
  funext i; simp only [upd]; split <;> rfl

theorem upd_self {α : Type} (f : Nat → α) (k : Nat) : upd f k (f k) = f := by
  funext i; simp only [upd]; split <;> simp [*]

theorem upd_eq_self {α : Type} (f : Nat → α) (k : Nat) (v : α) (h : f k = v) : upd f k v = f :=
  h ▸ upd_self f k

/-- Run a partial step function over a list of actions. -/
def runFrom {σ α : Type} (step : σ → α → Option σ) : σ → List α → Option σ
  | s, [] => some s
  | s, a :: as => match step s a with
    | some s' => runFrom step s' as
    | none => none

theorem runFrom_cons {σ α : Type} (step : σ → α → Option σ) (s : σ) (a : α) (as : List α) :
    runFrom step s (a :: as) = (step s a).bind fun s' => runFrom step s' as := by
  simp only [runFrom]; cases step s a <;> rfl

theorem runFrom_append {σ α : Type} (step : σ → α → Option σ) (s : σ) (as bs : List α) :
    runFrom step s (as ++ bs) = (runFrom step s as).bind fun s' => runFrom step s' bs := by
  induction as generalizing s with
  | nil => rfl
  | cons a as ih =>
    simp only [List.cons_append, runFrom_cons]
    cases step s a <;> simp [ih]

/-- What every single step preserves, a run preserves. -/
theorem runFrom_invariant {σ α : Type} {step : σ → α → Option σ} {P : σ → Prop}
    (hP : ∀ s a s', P s → step s a = some s' → P s') :
    ∀ (acts : List α) {s s' : σ}, P s → runFrom step s acts = some s' → P s'
  | [], _, _, h, hr => by cases hr; exact h
  | a :: as, s, _, h, hr => by
    rw [runFrom_cons] at hr
    cases hs : step s a with
    | none => simp [hs] at hr
    | some s1 => exact runFrom_invariant hP as (hP s a s1 h hs) (by simpa [hs] using hr)

/-- Induction over a run for a relation between its two ends: if every step of an action meeting `P`, out of a state
    in `I`, keeps `I` and establishes `R`, and `R` is reflexive and transitive, so does every run of such actions. -/
theorem runFrom_rel {σ α : Type} {step : σ → α → Option σ} {I : σ → Prop} {P : α → Prop}
    {R : σ → σ → Prop} (hrefl : ∀ s, R s s) (htrans : ∀ {a b c}, R a b → R b c → R a c)
    (hstep : ∀ {s a s'}, I s → P a → step s a = some s' → I s' ∧ R s s') :
    ∀ {acts : List α} {s s' : σ}, I s → (∀ a, a ∈ acts → P a) →
      runFrom step s acts = some s' → I s' ∧ R s s'
  | [], s, _, hi, _, hr => by cases hr; exact ⟨hi, hrefl s⟩
  | a :: as, s, _, hi, hall, hr => by
    rw [runFrom_cons] at hr
    cases hs : step s a with
    | none => simp [hs] at hr
    | some s1 =>
      obtain ⟨hi1, r1⟩ := hstep hi (hall a (by simp)) hs
      obtain ⟨hi', r2⟩ := runFrom_rel hrefl htrans hstep (acts := as) hi1 (fun b hb => hall b (by simp [hb]))
        (by simpa [hs] using hr)
      exact ⟨hi', htrans r1 r2⟩

/-- `inv_cases hs [lemmas]`, for `hs` a step of a model's step relation and a goal about the new state: one goal per
    constructor; a step that leaves the fields the goal reads untouched is closed by the hypothesis about the old
    state, every other one by `grind` with the given lemmas (the point-update equations are `grind` lemmas already).
    Callers put just the facts the goal depends on into the context first: `grind`'s cost is dominated by the
    hypotheses it has to preprocess.  `… with hb` also opens `hb`, the step of an embedded model (a premise of the
    outer constructor). -/
syntax "inv_cases " ident (" [" Lean.Parser.Tactic.grindParam,* "]")? (" with " term)? : tactic
macro_rules
  | `(tactic| inv_cases $hs:ident $[[$ps,*]]?) =>
    `(tactic| cases $hs:ident <;> first | assumption | (intros; grind $[[$ps,*]]?))
  | `(tactic| inv_cases $hs:ident $[[$ps,*]]? with $hb) =>
    `(tactic| cases $hs:ident <;> (try cases $hb:term) <;> first | assumption | (intros; grind $[[$ps,*]]?))

end Panrpc
