/-
  Lemmas/BcMailbox.lean — M1 refines the sequential per-key mailbox (Spec/Mailbox.lean): the forward
  simulation (C19) through the abstraction function `abs` and the action mapping `absAct` of
  Model/BroadcasterAbs.lean.

  `refines_step`: for every reachable `s` and `step sk s a = some s'`, either `abs s' = abs s` or
  `specStep (abs s) m = some (abs s')` with `absAct s a = some m`.  Source facts used: `Hyg`,
  `NoChanClose`, `Wakes` (the same bundles C19 rests on; `Wakes.onlyClosed` is what makes every `Receive` a
  `register` of the specification, which refuses on a closed mailbox only).
-/
import Panrpc.Model.BroadcasterAbs
import Panrpc.Lemmas.Broadcaster

namespace Panrpc.Bc

/-- an entry context is done only for a reason the specification knows -/
structure CD (s : State) : Prop where
  ctx_reason : ∀ g e, s.entries g = some e → e.ctxDone = true →
      s.table e.key ≠ some g ∨ s.ctxs e.parent = true

theorem cd_init : CD init := by constructor; simp [init]

theorem cd_step {sk : Skeleton} {s s' : State} {a : Act} (hy : Hyg sk) (hw : WF s) (h : CD s)
    (hs : Step sk s a s') : CD s' where
  ctx_reason := by
    have := h.ctx_reason; have := hw.table_key
    have := hy.freeDeletes; have := hy.closeClears
    inv_cases hs

theorem reach_cd {sk : Skeleton} {s : State} (hy : Hyg sk) (h : Reach sk s) : CD s := by
  induction h with
  | init => exact cd_init
  | step a hr hs ih => exact cd_step hy (reach_wf hr) ih (.of_step hs)

@[simp] theorem absRcv_absent : absRcv .absent = .absent := rfl
@[simp] theorem absRcv_refused : absRcv .refused = .refused := rfl
@[simp] theorem absRcv_have (k g x : Nat) : absRcv (.have k g x) = .bound k g x .none := rfl
@[simp] theorem absRcv_waiting (k g x : Nat) : absRcv (.waiting k g x) = .bound k g x .none := rfl
@[simp] theorem absRcv_gotVal (k g x v : Nat) : absRcv (.gotVal k g x v) = .bound k g x (.val v) := rfl
@[simp] theorem absRcv_gotCtx (k g x : Nat) : absRcv (.gotCtx k g x) = .bound k g x .ctxErr := rfl
@[simp] theorem absRcv_gotClosed (k g x : Nat) : absRcv (.gotClosed k g x) = .bound k g x .closedErr := rfl
@[simp] theorem absPub_absent : absPub .absent = .absent := rfl
@[simp] theorem absPub_start (k v : Nat) : absPub (.start k v) = .pending k v none := rfl
@[simp] theorem absPub_holding (k v g : Nat) : absPub (.holding k v g) = .pending k v (some g) := rfl
@[simp] theorem absPub_done_true : absPub (.done true) = .delivered := rfl
@[simp] theorem absPub_done_false : absPub (.done false) = .dropped := rfl
@[simp] theorem ownerOf_some (e : Entry) : ownerOf (some e) = e.parent := rfl

def Sim (s : State) (a : Act) (s' : State) : Prop :=
  abs s' = abs s ∨ ∃ m, absAct s a = some m ∧ Mb.specStep (abs s) m = some (abs s')

variable {sk : Skeleton} {s s' : State} {a : Act}

/-- the rendezvous IS the specification's hand-off (never a stutter) -/
theorem sim_rcvValue_spec {t p : Nat} (hw : WF s) (hs : Step sk s (.rcvValue t p) s') :
    Mb.specStep (abs s) (.handoff p t) = some (abs s') := by
  cases hs with
  | @rcvValue _ _ k g x pk v e _ hrc hpb hent =>
    have h1 := hw.pub_entry p pk v g hpb
    have h2 := hw.rcv_entry t k g (by simp [hrc, Rcv.binding])
    obtain rfl : pk = k := by simp [hent] at h1 h2; rw [← h1, h2]
    simp [Mb.specStep, abs, map_upd absRcv, map_upd absPub, absDel, hrc, hpb]

theorem sim_step (hy : Hyg sk) (hk : Wakes sk) (hw : WF s) (hc : NC s) (hwk : WK s) (hcd : CD s)
    (hs : Step sk s a s') : Sim s a s' := by
  have hrf := hk.refuses; have hoc := hk.onlyClosed; have hemp := hwk.closed_empty
  have hdel := hy.freeDeletes; have hclr := hy.closeClears; have hset := hk.closeSets
  cases hs with
  | rcvValue h1 h2 h3 h4 h5 h6 h7 => exact .inr ⟨_, rfl, sim_rcvValue_spec hw (.rcvValue h1 h2 h3 h4 h5 h6 h7)⟩
  | @rcvCall t k g x _ h =>
    rcases h with h | ⟨v, h⟩ | h | h
    · exact .inl (by simp only [abs, map_upd absRcv]; rw [upd_eq_self _ _ _ (by simp [h])])
    all_goals exact .inr ⟨.again t, by simp [absAct, h], by simp [Mb.specStep, abs, map_upd absRcv, h]⟩
  | @rcvChanClosed t k g x e _ _ hent hcl => simp [hc.nochan g e hent] at hcl
  | @rcvDone t k g x e _ hrc hent hdn =>
    have hkey : e.key = k := by simpa [hent] using hw.rcv_entry t k g (by simp [hrc, Rcv.binding])
    have := hkey ▸ (done_iff_removed hc hwk hent).mp hdn
    exact .inr ⟨_, rfl, by simp_all [Mb.specStep, abs, map_upd absRcv]⟩
  | @pubCtx p k v g e _ hpb hent hcd' =>
    have hkey : e.key = k := by simpa [hent] using hw.pub_entry p k v g hpb
    have hreason := hkey ▸ hcd.ctx_reason g e hent hcd'
    refine .inr ⟨_, rfl, ?_⟩
    rcases hreason with h | h <;> simp_all [Mb.specStep, abs, map_upd absPub]
  | pubMiss | pubHit =>
    cases hcl : s.closed <;> exact .inr ⟨_, rfl, by simp_all [Mb.specStep, abs, map_upd absPub]⟩
  | pubSendClosed | freeNone | freePanic => exact .inl rfl
  | @free k g e _ _ _ hent =>
    refine .inr ⟨_, rfl, ?_⟩
    simp only [Mb.specStep, abs, map_upd ownerOf, hdel, if_true]
    rw [upd_eq_self _ g _ (by simp [hent])]
  | closeClear =>
    refine .inr ⟨_, rfl, ?_⟩
    simp only [Mb.specStep, abs, hset, Bool.or_true]
    refine congrArg some (Mb.MState.ext rfl rfl rfl ?_ rfl rfl rfl rfl)
    funext g
    show ownerOf (s.entries g) = ownerOf _
    cases s.entries g with
    | none => rfl
    | some e => simp only []; split <;> rfl
  | closeKeep _ _ h => exact absurd hclr h
  | @ctxPropagate g e _ hent =>
    exact .inl (by simp only [abs, map_upd ownerOf]; rw [upd_eq_self _ g _ (by simp [hent])])
  -- the remaining actions have the guards of their specification step, so `specStep` takes the same branch, and `abs`
  -- commutes with the point updates (`map_upd`)
  | _ => exact .inr ⟨_, rfl, by simp_all [Mb.specStep, abs, map_upd absRcv, map_upd absPub, map_upd ownerOf]⟩

/-- Forward simulation: every step from a reachable M1 state is a stutter or the specification
    step named by `absAct`. -/
theorem refines_step (sk : Skeleton) (hy : Hyg sk) (hn : NoChanClose sk) (hk : Wakes sk) {s s' : State}
    (hr : Reach sk s) (a : Act) (hs : step sk s a = some s') : Sim s a s' :=
  sim_step hy hk (reach_wf hr) (reach_nc hy hn hr) (reach_wk hy hk hr) (reach_cd hy hr) (.of_step hs)

theorem abs_init : abs init = Mb.init := rfl

/-- Every reachable M1 state abstracts to a reachable state of the specification. -/
theorem refines_reach (sk : Skeleton) (hy : Hyg sk) (hn : NoChanClose sk) (hk : Wakes sk) {s : State}
    (hr : Reach sk s) : Mb.Reach (abs s) := by
  induction hr with
  | init => rw [abs_init]; exact Mb.Reach.init
  | step a hr hs ih =>
    rcases refines_step sk hy hn hk hr a hs with h | ⟨m, _, hm⟩
    · rw [h]; exact ih
    · exact Mb.Reach.step m ih hm

/-- the rendezvous of a reachable state is the specification's hand-off -/
theorem refines_handoff {t p : Nat} (hr : Reach sk s) (hs : step sk s (.rcvValue t p) = some s') :
    Mb.specStep (abs s) (.handoff p t) = some (abs s') :=
  sim_rcvValue_spec (reach_wf hr) (.of_step hs)

theorem abs_handoffs_pub (s : State) : (abs s).handoffs.map Mb.Handoff.pub = s.deliveries.map Delivery.pub := by
  simp [abs, absDel, List.map_map, Function.comp_def]

end Panrpc.Bc
