/-
  Lemmas/Broadcaster.lean — M1: `step` as a relation, and the inductive invariants of the broadcaster
  (WF, NC, WK, DL) with their preservation.  Helper lemmas only; the property theorems are in
  Props/C19.lean (and C05, C04).

  Every preservation proof has the same shape: one case per constructor of `Step`; a clause is
  re-established from the clauses it names (nothing else is in context, which is what keeps `grind`
  cheap), a case that does not touch the fields the clause reads is closed by the clause itself.
-/
import Panrpc.Model.Broadcaster

namespace Panrpc.Bc

/-- `step` as a relation: one constructor per branch, its guards as premises. -/
inductive Step (sk : Skeleton) (s : State) : Act → State → Prop
  | refuse {t k x} : s.crashed = false → s.lockHolder = none → s.rcvs t = .absent →
      s.closed = true → sk.bcReceiveRefusesWhenClosed = true →
      Step sk s (.receive t k x) { s with rcvs := upd s.rcvs t .refused }
  | refuseCtx {t k x} : s.crashed = false → s.lockHolder = none → s.rcvs t = .absent →
      ¬ (s.closed = true ∧ sk.bcReceiveRefusesWhenClosed = true) →
      s.ctxs x = true → sk.bcReceiveErrorsOnlyClosed = false →
      Step sk s (.receive t k x) { s with rcvs := upd s.rcvs t .refusedCtx }
  | join {t k x g} : s.crashed = false → s.lockHolder = none → s.rcvs t = .absent →
      ¬ (s.closed = true ∧ sk.bcReceiveRefusesWhenClosed = true) →
      ¬ (s.ctxs x = true ∧ sk.bcReceiveErrorsOnlyClosed = false) → s.table k = some g →
      Step sk s (.receive t k x) { s with rcvs := upd s.rcvs t (.have k g x) }
  | create {t k x} : s.crashed = false → s.lockHolder = none → s.rcvs t = .absent →
      ¬ (s.closed = true ∧ sk.bcReceiveRefusesWhenClosed = true) →
      ¬ (s.ctxs x = true ∧ sk.bcReceiveErrorsOnlyClosed = false) → s.table k = none →
      Step sk s (.receive t k x)
        { s with table := upd s.table k (some s.nextGen),
                 entries := upd s.entries s.nextGen
                   (some { key := k, parent := x, chanClosed := false, doneClosed := false, ctxDone := s.ctxs x }),
                 nextGen := s.nextGen + 1,
                 rcvs := upd s.rcvs t (.have k s.nextGen x) }
  | rcvCall {t k g x} : s.crashed = false →
      (s.rcvs t = .have k g x ∨ (∃ v, s.rcvs t = .gotVal k g x v) ∨ s.rcvs t = .gotCtx k g x ∨
        s.rcvs t = .gotClosed k g x) →
      Step sk s (.rcvCall t) { s with rcvs := upd s.rcvs t (.waiting k g x) }
  | rcvValue {t p k g x pk v e} : s.crashed = false → s.rcvs t = .waiting k g x → s.pubs p = .holding pk v g →
      s.entries g = some e → e.chanClosed = false → sk.bcRecvSelectsChan = true →
      sk.bcPublishSelectsSend = true →
      Step sk s (.rcvValue t p)
        { s with rcvs := upd s.rcvs t (.gotVal k g x v),
                 pubs := upd s.pubs p (.done true),
                 lockHolder := if s.lockHolder = some p then none else s.lockHolder,
                 deliveries := { pub := p, rcv := t, pkey := pk, rkey := k, val := v } :: s.deliveries }
  | rcvChanClosed {t k g x e} : s.crashed = false → s.rcvs t = .waiting k g x → s.entries g = some e →
      e.chanClosed = true → sk.bcRecvSelectsChan = true →
      Step sk s (.rcvChanClosed t) { s with rcvs := upd s.rcvs t (.gotClosed k g x) }
  | rcvDone {t k g x e} : s.crashed = false → s.rcvs t = .waiting k g x → s.entries g = some e →
      e.doneClosed = true → sk.bcRecvSelectsDone = true →
      Step sk s (.rcvDone t) { s with rcvs := upd s.rcvs t (.gotClosed k g x) }
  | rcvCtx {t k g x} : s.crashed = false → s.rcvs t = .waiting k g x → s.ctxs x = true →
      sk.bcRecvSelectsCallerCtx = true →
      Step sk s (.rcvCtx t) { s with rcvs := upd s.rcvs t (.gotCtx k g x) }
  | pubStart {p k v} : s.crashed = false → s.pubs p = .absent →
      Step sk s (.pubStart p k v) { s with pubs := upd s.pubs p (.start k v) }
  | pubMiss {p k v} : s.crashed = false → s.lockHolder = none → s.pubs p = .start k v →
      ((s.closed = true ∧ sk.bcPublishChecksClosed = true) ∨ s.table k = none) →
      Step sk s (.pubLookup p) { s with pubs := upd s.pubs p (.done false) }
  | pubHit {p k v g} : s.crashed = false → s.lockHolder = none → s.pubs p = .start k v →
      ¬ (s.closed = true ∧ sk.bcPublishChecksClosed = true) → s.table k = some g →
      Step sk s (.pubLookup p)
        { s with pubs := upd s.pubs p (.holding k v g),
                 lockHolder := if sk.bcPublishSelectOutsideLock = true then none else some p }
  | pubCtx {p k v g e} : s.crashed = false → s.pubs p = .holding k v g → s.entries g = some e →
      e.ctxDone = true → sk.bcPublishSelectsEntryCtx = true →
      Step sk s (.pubCtx p)
        { s with pubs := upd s.pubs p (.done false),
                 lockHolder := if s.lockHolder = some p then none else s.lockHolder }
  | pubSendClosed {p k v g e} : s.crashed = false → s.pubs p = .holding k v g → s.entries g = some e →
      e.chanClosed = true → sk.bcPublishSelectsSend = true →
      Step sk s (.pubSendClosed p) { s with crashed := true }
  | freeNone {k} : s.crashed = false → s.lockHolder = none →
      (s.table k = none ∨ ∃ g, s.table k = some g ∧ s.entries g = none) →
      Step sk s (.free k) s
  | freePanic {k g e} : s.crashed = false → s.lockHolder = none → s.table k = some g → s.entries g = some e →
      ((e.chanClosed = true ∧ sk.bcFreeClosesChan = true) ∨ (e.doneClosed = true ∧ sk.bcFreeClosesDone = true)) →
      Step sk s (.free k) { s with crashed := true }
  | free {k g e} : s.crashed = false → s.lockHolder = none → s.table k = some g → s.entries g = some e →
      ¬ ((e.chanClosed = true ∧ sk.bcFreeClosesChan = true) ∨ (e.doneClosed = true ∧ sk.bcFreeClosesDone = true)) →
      Step sk s (.free k)
        { s with entries := upd s.entries g (some (freeEntry sk e)),
                 table := if sk.bcFreeDeletes = true then upd s.table k none else s.table }
  | closeClear : s.crashed = false → s.lockHolder = none → sk.bcCloseClearsTable = true →
      Step sk s .close
        { s with entries := fun g => match s.entries g with
                   | some e => if s.table e.key = some g then some (closeEntry sk e) else some e
                   | none => none,
                 table := fun _ => none,
                 closed := s.closed || sk.bcCloseSetsClosed }
  | closeKeep : s.crashed = false → s.lockHolder = none → sk.bcCloseClearsTable ≠ true →
      Step sk s .close
        { s with entries := fun g => match s.entries g with
                   | some e => if s.table e.key = some g then some (closeEntry sk e) else some e
                   | none => none,
                 closed := s.closed || sk.bcCloseSetsClosed }
  | ctxCancel {x} : s.crashed = false → Step sk s (.ctxCancel x) { s with ctxs := upd s.ctxs x true }
  | ctxPropagate {g e} : s.crashed = false → s.entries g = some e → s.ctxs e.parent = true →
      sk.bcReceiveChildCtx = true →
      Step sk s (.ctxPropagate g) { s with entries := upd s.entries g (some { e with ctxDone := true }) }

theorem Step.of_step {sk : Skeleton} {s s' : State} {a : Act} (hs : step sk s a = some s') : Step sk s a s' := by
  cases a <;> simp only [step] at hs
  -- split the guards only: stop as soon as `hs` is `some _ = some s'`, so that no `if` inside the new state is split
  all_goals repeat' first | cases hs | split at hs
  all_goals first
    | (constructor <;> first | assumption | simp_all)
    | (split <;> constructor <;> simp_all)   -- `close`: one constructor per value of `bcCloseClearsTable`

theorem Step.to_step {sk : Skeleton} {s s' : State} {a : Act} (hs : Step sk s a s') : step sk s a = some s' := by
  cases hs
  case rcvCall h => rcases h with h | ⟨_, h⟩ | h | h <;> simp [step, *]
  case pubMiss h => rcases h with h | h <;> simp [step, *]
  case freeNone h => rcases h with h | ⟨_, h, _⟩ <;> simp [step, *]
  case closeClear | closeKeep => simp [step, *]; rfl   -- the two `match`es on `s.entries g` are distinct auxiliary matchers
  all_goals simp [step, *]

theorem Step.closed_mono {sk : Skeleton} {b b' : State} {a : Act} (hs : Step sk b a b') (hc : b.closed = true) :
    b'.closed = true := by
  cases hs <;> first | exact hc | simp [hc]

theorem Step.deliveries_mono {sk : Skeleton} {b b' : State} {a : Act} (hs : Step sk b a b') {d : Delivery}
    (h : d ∈ b.deliveries) : d ∈ b'.deliveries := by
  cases hs <;> first | exact h | exact List.mem_cons_of_mem _ h

theorem Step.close_closes {sk : Skeleton} (hk : sk.bcCloseSetsClosed = true) {b b' : State}
    (hs : Step sk b .close b') : b'.closed = true := by
  cases hs <;> simp [hk]

/-- `Receive` always refuses on a closed broadcaster -/
theorem closed_refuses (sk : Skeleton) (hr : sk.bcReceiveRefusesWhenClosed = true) {b b' : State} {t k x : Nat}
    (hs : step sk b (.receive t k x) = some b') (hc : b.closed = true) : b'.rcvs t = .refused := by
  cases Step.of_step hs <;> simp_all

/-- without the source fact that `Receive` fails only when closed, a caller context that is done already is refused on
    an open broadcaster -/
theorem done_ctx_refused (sk : Skeleton) (ho : sk.bcReceiveErrorsOnlyClosed = false) {b b' : State} {t k x : Nat}
    (hs : step sk b (.receive t k x) = some b') (hc : b.closed = false) (hx : b.ctxs x = true) :
    b'.rcvs t = .refusedCtx := by
  cases Step.of_step hs <;> simp_all

theorem receive_isSome (sk : Skeleton) (b : State) (t k x : Nat) :
    (step sk b (.receive t k x)).isSome = decide (b.crashed = false ∧ b.lockHolder = none ∧ b.rcvs t = .absent) := by
  simp only [step]
  (repeat' split) <;> simp_all

/-- key and generation a receiver thread is bound to, if any -/
def Rcv.binding : Rcv → Option (Nat × Nat)
  | .have k g _ | .waiting k g _ | .gotVal k g _ _ | .gotCtx k g _ | .gotClosed k g _ => some (k, g)
  | _ => none

@[simp, grind =] theorem freeEntry_key (sk : Skeleton) (e : Entry) : (freeEntry sk e).key = e.key := rfl
@[simp, grind =] theorem closeEntry_key (sk : Skeleton) (e : Entry) : (closeEntry sk e).key = e.key := rfl
@[simp, grind =] theorem freeEntry_parent (sk : Skeleton) (e : Entry) : (freeEntry sk e).parent = e.parent := rfl
@[simp, grind =] theorem closeEntry_parent (sk : Skeleton) (e : Entry) : (closeEntry sk e).parent = e.parent := rfl

section
variable {sk : Skeleton} {s s' : State} {a : Act}

/-- structural well-formedness; holds for every skeleton -/
structure WF (s : State) : Prop where
  entries_lt : ∀ g e, s.entries g = some e → g < s.nextGen
  table_key  : ∀ k g, s.table k = some g → (s.entries g).map Entry.key = some k
  pub_entry  : ∀ p k v g, s.pubs p = .holding k v g → (s.entries g).map Entry.key = some k
  rcv_entry  : ∀ t k g, (s.rcvs t).binding = some (k, g) → (s.entries g).map Entry.key = some k

/-- so whatever refers to a generation refers to one that has been handed out -/
theorem WF.lt_of_key (h : WF s) {g k : Nat} (hk : (s.entries g).map Entry.key = some k) : g < s.nextGen :=
  let ⟨e, he, _⟩ := Option.map_eq_some_iff.mp hk; h.entries_lt g e he

theorem WF.table_lt (h : WF s) (k g : Nat) (ht : s.table k = some g) : g < s.nextGen := h.lt_of_key (h.table_key k g ht)
theorem WF.pub_lt (h : WF s) (p k v g : Nat) (hp : s.pubs p = .holding k v g) : g < s.nextGen :=
  h.lt_of_key (h.pub_entry p k v g hp)
theorem WF.rcv_lt (h : WF s) (t k g : Nat) (hr : (s.rcvs t).binding = some (k, g)) : g < s.nextGen :=
  h.lt_of_key (h.rcv_entry t k g hr)

theorem wf_init : WF init := by
  constructor <;> simp [init, Rcv.binding]

theorem wf_step (h : WF s) (hs : Step sk s a s') : WF s' where
  entries_lt := by
    have := h.entries_lt; clear h
    inv_cases hs
  table_key := by
    have := h.table_lt; have := h.table_key; clear h
    inv_cases hs
  pub_entry := by
    have := h.table_key; have := h.pub_entry; have := h.pub_lt; clear h
    inv_cases hs
  rcv_entry := by
    have := h.table_key; have := h.rcv_entry; have := h.rcv_lt; clear h
    inv_cases hs [Rcv.binding]

theorem reach_wf (h : Reach sk s) : WF s := by
  induction h with
  | init => exact wf_init
  | step a _ hs ih => exact wf_step ih (.of_step hs)

theorem WF.pub_holding (h : WF s) {p k v g : Nat} (hp : s.pubs p = .holding k v g) :
    ∃ e, s.entries g = some e ∧ e.key = k :=
  Option.map_eq_some_iff.mp (h.pub_entry p k v g hp)

theorem WF.rcv_waiting (h : WF s) {t k g x : Nat} (ht : s.rcvs t = .waiting k g x) :
    ∃ e, s.entries g = some e ∧ e.key = k :=
  Option.map_eq_some_iff.mp (h.rcv_entry t k g (by rw [ht]; rfl))

/-- Source facts: removal from the table and the closed-signal go together. -/
structure Hyg (sk : Skeleton) : Prop where
  freeDeletes : sk.bcFreeDeletes = true
  closeClears : sk.bcCloseClearsTable = true

/-- Source facts: the value channel is never closed (repaired tree). -/
structure NoChanClose (sk : Skeleton) : Prop where
  free  : sk.bcFreeClosesChan = false
  close : sk.bcCloseClosesChans = false

/-- no channel is ever closed twice or sent on after close (under `Hyg` and `NoChanClose`) -/
structure NC (s : State) : Prop where
  nochan   : ∀ g e, s.entries g = some e → e.chanClosed = false
  live     : ∀ k g e, s.table k = some g → s.entries g = some e → e.doneClosed = false
  nocrash  : s.crashed = false

theorem nc_init : NC init := by constructor <;> simp [init]

theorem nc_step (hy : Hyg sk) (hn : NoChanClose sk) (hw : WF s) (h : NC s) (hs : Step sk s a s') : NC s' where
  nochan := by
    have := h.nochan; have := hn.free; have := hn.close
    inv_cases hs [freeEntry, closeEntry]
  live := by
    have := h.live; have := hw.table_key
    have := hy.freeDeletes; have := hy.closeClears
    inv_cases hs
  nocrash := by
    have := h.nochan; have := h.live
    inv_cases hs

theorem reach_nc (hy : Hyg sk) (hn : NoChanClose sk) (h : Reach sk s) : NC s := by
  induction h with
  | init => exact nc_init
  | step a hr hs ih => exact nc_step hy hn (reach_wf hr) ih (.of_step hs)

/-- Source facts: everything that removes an entry cancels its context and raises a closed signal
    that the receive function listens to; `Receive` fails on a closed broadcaster, and only then
    (it does not, e.g., refuse a caller context that is done already: M1's `Rcv.refusedCtx` never occurs). -/
structure Wakes (sk : Skeleton) : Prop where
  freeCancels  : sk.bcFreeCancels = true
  closeCancels : sk.bcCloseCancelsAll = true
  freeSignals  : sk.bcFreeClosesChan = true ∨ sk.bcFreeClosesDone = true
  closeSignals : sk.bcCloseClosesChans = true ∨ sk.bcCloseClosesDone = true
  closeSets    : sk.bcCloseSetsClosed = true
  refuses      : sk.bcReceiveRefusesWhenClosed = true
  onlyClosed   : sk.bcReceiveErrorsOnlyClosed = true   -- … and `Receive` fails for no other reason (no refusal of a done context)

def Entry.signalled (e : Entry) : Bool := e.chanClosed || e.doneClosed

/-- whoever leaves the table is woken; the outcomes of the receive function are justified; the closed flag empties
    the table for good (under `Hyg` and `Wakes`) -/
structure WK (s : State) : Prop where
  removed_ctx  : ∀ g e, s.entries g = some e → s.table e.key ≠ some g → e.ctxDone = true
  removed_sig  : ∀ g e, s.entries g = some e → s.table e.key ≠ some g → e.signalled = true
  sig_removed  : ∀ g e, s.entries g = some e → e.signalled = true → s.table e.key ≠ some g
  closed_empty : s.closed = true → ∀ k, s.table k = none
  got_ctx      : ∀ t k g x, s.rcvs t = .gotCtx k g x → s.ctxs x = true
  got_closed   : ∀ t k g x, s.rcvs t = .gotClosed k g x → (s.entries g).map Entry.signalled = some true

theorem wk_init : WK init := by constructor <;> simp [init]

theorem wk_step (hy : Hyg sk) (hk : Wakes sk) (hw : WF s) (h : WK s) (hs : Step sk s a s') : WK s' where
  removed_ctx := by
    have := h.removed_ctx
    have := hk.freeCancels; have := hk.closeCancels
    inv_cases hs [freeEntry, closeEntry]
  removed_sig := by
    have := h.removed_sig
    have := hk.freeSignals; have := hk.closeSignals
    inv_cases hs [freeEntry, closeEntry, Entry.signalled]
  sig_removed := by
    have := h.sig_removed; have := hw.table_key
    have := hy.freeDeletes; have := hy.closeClears
    inv_cases hs [Entry.signalled]
  closed_empty := by
    have := h.closed_empty; have := hy.closeClears; have := hk.refuses
    inv_cases hs
  got_ctx := by
    have := h.got_ctx
    inv_cases hs
  got_closed := by
    have := h.got_closed
    have := fun t k g x (h : s.rcvs t = .gotClosed k g x) => hw.rcv_lt t k g (by rw [h]; rfl)
    inv_cases hs [freeEntry, closeEntry, Entry.signalled]

theorem reach_wk (hy : Hyg sk) (hk : Wakes sk) (h : Reach sk s) : WK s := by
  induction h with
  | init => exact wk_init
  | step a hr hs ih => exact wk_step hy hk (reach_wf hr) ih (.of_step hs)

/-- the value channel is never closed, so the closed signal of an entry is raised exactly when it has left the table -/
theorem done_iff_removed (hn : NC s) (hk : WK s) {g : Nat} {e : Entry} (he : s.entries g = some e) :
    e.doneClosed = true ↔ s.table e.key ≠ some g := by
  have hs : e.signalled = e.doneClosed := by simp [Entry.signalled, hn.nochan g e he]
  exact hs ▸ ⟨hk.sig_removed g e he, hk.removed_sig g e he⟩

/-- the ghost delivery log: every hand-off is logged once, publisher key = receiver key, and a received value is a
    logged hand-off -/
structure DL (s : State) : Prop where
  pub_done  : ∀ d, d ∈ s.deliveries → s.pubs d.pub = .done true
  same_key  : ∀ d, d ∈ s.deliveries → d.pkey = d.rkey
  got_logged : ∀ t k g x v, s.rcvs t = .gotVal k g x v →
      s.deliveries.any (fun d => decide (d.rcv = t ∧ d.val = v ∧ d.rkey = k)) = true
  nodup     : (s.deliveries.map Delivery.pub).Nodup

theorem dl_init : DL init := by constructor <;> simp [init]

theorem dl_step (hw : WF s) (h : DL s) (hs : Step sk s a s') : DL s' where
  pub_done := by
    have := h.pub_done
    inv_cases hs
  same_key := by
    have := h.same_key; have := hw.pub_entry; have := hw.rcv_entry
    inv_cases hs [Rcv.binding]
  got_logged := by
    have := h.got_logged
    inv_cases hs
  nodup := by
    have := h.nodup; have := h.pub_done
    inv_cases hs

theorem reach_dl (h : Reach sk s) : DL s := by
  induction h with
  | init => exact dl_init
  | step a hr hs ih => exact dl_step (reach_wf hr) ih (.of_step hs)

/-- the mutex is never held across Publish's select when the select runs after the unlock -/
theorem reach_lock_free (hsel : sk.bcPublishSelectOutsideLock = true) (h : Reach sk s) : s.lockHolder = none := by
  induction h with
  | init => rfl
  | step a _ hs ih => cases Step.of_step hs <;> first | assumption | simp_all

end

end Panrpc.Bc
