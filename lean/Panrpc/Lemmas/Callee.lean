/-
  Lemmas/Callee.lean — the callee side of one request (Model/Callee.lean), for every skeleton that meets the stated
  hypotheses.  A step has one of four effects (`Eff`), each of which keeps the invariant `Good` (one response or one
  `setErr`, at the end, never a crash); from it: what a request ends with whose function returns, panics, or whose
  lookup fails or panics.
-/
import Panrpc.Model.Callee

namespace Panrpc.Ce

theorem reach_of_run (sk : Skeleton) {cid : String} {cl : Bool} {s s' : State} (acts : List Act)
    (h : Reach sk cid cl s) (hr : run sk s acts = some s') : Reach sk cid cl s' :=
  runFrom_invariant (fun _ a _ h hs => Reach.step a h hs) acts h hr

/-- The facts the containment / one-response invariant rests on. -/
structure Hyp (sk : Skeleton) : Prop where
  lkRec   : sk.lkRecoversPanics = true
  viaCall : sk.reqCallViaUtilsCall = true
  ucRec   : sk.ucRecovers = true
  onePer  : sk.reqOneResponsePerBranch = true
  callIs  : sk.reqResponseCallIsReqCall = true

/-- The invariant of one request's life. -/
structure Good (cid : String) (cl : Bool) (s : State) : Prop where
  idOk    : s.callId = cid
  clOk    : s.isClosureEntry = cl
  nocrash : s.crashed = false
  npanic  : s.pc ≠ .panicked
  /-- nothing is written and `setErr` is not called before the end; at the end exactly one of the two happened, once -/
  count   : s.responses.length + s.setErrCalls.length = (if s.pc = .done then 1 else 0)
  callOk  : ∀ x ∈ s.responses, x.1 = cid
  early   : (s.pc = .resolving ∨ s.pc = .resolved) → s.appCodeRan = false
  /-- a request refused by the lookup never reached application code -/
  notRun  : (.resolveError ∈ s.setErrCalls ∨ .lookupPanic ∈ s.setErrCalls) → s.appCodeRan = false

theorem good_init (cid : String) (cl : Bool) : Good cid cl (init cid cl) := by
  refine ⟨rfl, rfl, rfl, ?_, ?_, ?_, ?_, ?_⟩ <;> simp [init]

theorem quiet {cid : String} {cl : Bool} {s : State} (g : Good cid cl s) (h : s.pc ≠ .done) :
    s.responses = [] ∧ s.setErrCalls = [] := by
  have := g.count
  simpa [h] using this

theorem utilsCall_rec (sk : Skeleton) (h : sk.ucRecovers = true) (p : PanicVal) :
    utilsCall sk p ≠ .propagates := by
  cases p <;> simp [utilsCall, h] <;> split <;> simp

/-- What one step of a request's life does to the state on a skeleton meeting `Hyp`: it moves the program counter
    (never to `panicked`, never to the end, never back), or enters the application's function, or ends the request
    with `setErr`, or ends it with the response. -/
inductive Eff (s : State) : State → Prop
  | pc (q : Pc) (h1 : q ≠ .panicked) (h2 : q ≠ .done) (h3 : q ≠ .resolving) (h4 : q = .resolved → s.pc = .resolving) :
      Eff s { s with pc := q }
  | start : Eff s { s with pc := .running, appCodeRan := true }
  | fatal (c : Cause) (h : .resolveError = c ∨ .lookupPanic = c → s.pc = .resolving) : Eff s (fatal s c)
  | respond (e : String) : Eff s { s with pc := .done, responses := s.responses ++ [(s.callId, e)] }

/-- A panic leaving the invoked function never kills the goroutine. -/
theorem outerPanic_eff {sk : Skeleton} (hy : Hyp sk) {s : State} (p : PanicVal) :
    Eff s (outerPanic sk s p) := by
  have hu := utilsCall_rec sk hy.ucRec p
  simp only [outerPanic, hy.viaCall, if_true]
  cases hc : utilsCall sk p with
  | propagates => exact absurd hc hu
  | err m => simp only []; split <;> constructor <;> simp
  | empty => constructor <;> simp

theorem resolveErr_eff (sk : Skeleton) {s : State} (c : Cause) (h : s.pc = .resolving) :
    Eff s (resolveErr sk s c) := by
  simp only [resolveErr]; split <;> constructor <;> simp [h]

theorem step_eff {sk : Skeleton} (hy : Hyp sk) {s s' : State} {a : Act} (hs : step sk s a = some s') :
    s.pc ≠ .done ∧ Eff s s' := by
  -- each action has one guard on the pc; once it is split off, the new state is literally a constructor of `Eff`
  cases a <;> simp only [step, hy.lkRec, hy.onePer, hy.callIs, if_true] at hs <;> split at hs <;> cases hs <;>
    rename_i hpc <;> refine ⟨by simp [hpc], ?_⟩
  case handlerPanics p => exact outerPanic_eff hy p
  case closurePanics p =>
    simp only [innerPanic]; split
    · exact outerPanic_eff hy p
    · constructor <;> simp
    · exact outerPanic_eff hy _
  case resolveFails | resolvePanics => exact resolveErr_eff sk _ hpc
  all_goals constructor <;> simp [hpc]

theorem good_eff {cid : String} {cl : Bool} {s s' : State} (g : Good cid cl s) (hd : s.pc ≠ .done)
    (h : Eff s s') : Good cid cl s' := by
  -- before `done` both logs are empty (`quiet`), so each clause is the pc side condition of the effect's constructor
  obtain ⟨hr, he⟩ := quiet g hd
  obtain ⟨h1, h2, h3, h4, h5, h6, h7, h8⟩ := g
  cases h <;> refine ⟨h1, h2, h3, ?_, ?_, ?_, ?_, ?_⟩ <;> simp_all [fatal]

theorem step_good (sk : Skeleton) (hy : Hyp sk) {cid : String} {cl : Bool} {s s' : State} (a : Act)
    (g : Good cid cl s) (hs : step sk s a = some s') : Good cid cl s' :=
  have ⟨hd, he⟩ := step_eff hy hs
  good_eff g hd he

theorem reach_good (sk : Skeleton) (hy : Hyp sk) {cid : String} {cl : Bool} {s : State}
    (h : Reach sk cid cl s) : Good cid cl s := by
  induction h with
  | init => exact good_init cid cl
  | step a _ hs ih => exact step_good sk hy a ih hs

/-- A reflect panic during the lookup does not leave the goroutine if it is recovered anywhere. -/
theorem resolvePanics_no_crash (sk : Skeleton)
    (h : sk.lkRecoversPanics = true ∨ sk.reqResolverRecovers = true) {s s' : State}
    (hs : step sk s .resolvePanics = some s') :
    s'.crashed = s.crashed ∧ s'.pc ≠ .panicked ∧ s'.appCodeRan = s.appCodeRan ∧ s'.responses = s.responses := by
  simp only [step, Option.ite_none_right_eq_some, Option.some.injEq] at hs
  obtain ⟨-, rfl⟩ := hs
  rcases h with h | h <;> simp only [h, if_true, resolveErr] <;> (repeat' split) <;> simp [fatal]

/-- Recovered inside the lookup it is an ordinary lookup error: `setErr`, end of the request. -/
theorem resolvePanics_setErr (sk : Skeleton) (h1 : sk.lkRecoversPanics = true)
    (h2 : sk.reqResolveErrSetErr = true) {s s' : State} (hs : step sk s .resolvePanics = some s') :
    s.pc = .resolving ∧ s' = fatal s .lookupPanic := by
  simpa [step, resolveErr, h1, h2, eq_comm] using hs

theorem resolveFails_setErr (sk : Skeleton) (h2 : sk.reqResolveErrSetErr = true) {s s' : State}
    (hs : step sk s .resolveFails = some s') : s.pc = .resolving ∧ s' = fatal s .resolveError := by
  simpa [step, resolveErr, h2, eq_comm] using hs

theorem outerPanic_fatal (sk : Skeleton) (h1 : sk.reqCallViaUtilsCall = true) (h2 : sk.ucRecovers = true)
    (h3 : sk.ucNonErrorPanicMapped = true) (h4 : sk.reqCallErrSetErr = true) (s : State) (p : PanicVal) :
    outerPanic sk s p = fatal s .handlerPanic := by
  cases p <;> simp [outerPanic, utilsCall, h1, h2, h3, h4]

/-- A panic of the invoked function: `utils.Call` returns it as an error, the goroutine calls `setErr`
    and returns. -/
theorem handlerPanics_setErr (sk : Skeleton) (h1 : sk.reqCallViaUtilsCall = true) (h2 : sk.ucRecovers = true)
    (h3 : sk.ucNonErrorPanicMapped = true) (h4 : sk.reqCallErrSetErr = true) (p : PanicVal) {s s' : State}
    (hs : step sk s (.handlerPanics p) = some s') : s.pc = .running ∧ s' = fatal s .handlerPanic := by
  simpa [step, outerPanic_fatal sk h1 h2 h3 h4, eq_comm] using hs

/-- A panic of the user's closure: the wrapper's own `utils.Call` returns it as an error and
    `CallClosure` RETURNS `(nil, err)`. -/
theorem closurePanics_returns (sk : Skeleton) (h1 : sk.clCallViaUtilsCall = true) (h2 : sk.ucRecovers = true)
    (h3 : sk.ucNonErrorPanicMapped = true) (p : PanicVal) {s s' : State}
    (hs : step sk s (.closurePanics p) = some s') :
    s.pc = .running ∧ s.isClosureEntry = true ∧ s' = { s with pc := .returned (.two (some p.msg)) } := by
  simp only [step] at hs
  split at hs <;> (try simp at hs)
  rename_i hpc
  refine ⟨hpc.1, hpc.2, ?_⟩
  subst hs
  cases p <;> simp [innerPanic, utilsCall, h1, h2, h3, PanicVal.msg]

theorem step_done (sk : Skeleton) {s : State} (h : s.pc = .done) (a : Act) : step sk s a = none := by
  cases a <;> simp [step, h]

theorem run_done (sk : Skeleton) {s s' : State} (h : s.pc = .done) (acts : List Act)
    (hr : run sk s acts = some s') : s' = s := by
  cases acts with
  | nil => simp [run, runFrom] at hr; exact hr.symm
  | cons a as => simp [run, runFrom, step_done sk h a] at hr

/-- The facts the response depends on. -/
structure RespHyp (sk : Skeleton) : Prop where
  shapes : sk.reqRespShapesOk = true
  callIs : sk.reqResponseCallIsReqCall = true
  onePer : sk.reqOneResponsePerBranch = true
  untouched : sk.ucResultsUntouched = true   -- utils.Call hands back exactly what the function returned

/-- After the function returned `r`, as long as neither marshal nor write fails: no `setErr`, no
    crash, and the one thing written — at the end — is `(req.Call, Err r)`. -/
theorem returned_run (sk : Skeleton) (hy : RespHyp sk) (r : Shape) (acts : List Act) :
    ∀ (s s' : State), (s.pc = .returned r ∨ s.pc = .responding r.errStr) → run sk s acts = some s' →
      Act.marshalFails ∉ acts → Act.writeFails ∉ acts →
      s'.setErrCalls = s.setErrCalls ∧ s'.crashed = s.crashed ∧ s'.callId = s.callId ∧
      s'.responses = (if s'.pc = .done then s.responses ++ [(s.callId, r.errStr)] else s.responses) := by
  induction acts with
  | nil =>
    intro s s' hpc hr _ _
    simp [run, runFrom] at hr; subst hr
    rcases hpc with h | h <;> simp [h]
  | cons a as ih =>
    intro s s' hpc hr hm hw
    simp only [run, runFrom] at hr
    -- from `returned` only marshalOk / marshalFails are enabled, from `responding` only respond / writeFails; the
    -- failures are excluded by `hm`, `hw`; after `respond` the request is `done` and nothing runs (`run_done`)
    rcases hpc with hpc | hpc
    · cases a <;> simp only [step, hpc] at hr <;> (try simp at hr) <;> (try simp at hm)
      have := ih _ _ (Or.inr (by simp [hy.shapes])) hr hm fun h => hw (List.mem_cons_of_mem _ h)
      simpa using this
    · cases a <;> simp only [step, hpc] at hr <;> (try simp at hr) <;> (try simp at hw)
      simp only [hy.onePer, hy.callIs, if_true] at hr
      have := run_done sk (s := { s with pc := .done, responses := s.responses ++ [(s.callId, r.errStr)] })
        rfl as hr
      subst this; simp

/-- … from a reachable state, where nothing has been written yet (`quiet`) -/
theorem returned_run_good (sk : Skeleton) (hy : RespHyp sk) {cid : String} {cl : Bool} {s s' : State} {r : Shape}
    {acts : List Act} (g : Good cid cl s) (hpc : s.pc = .returned r) (hrun : run sk s acts = some s')
    (hm : Act.marshalFails ∉ acts) (hw : Act.writeFails ∉ acts) :
    s'.setErrCalls = [] ∧ s'.crashed = false ∧
    s'.responses = (if s'.pc = .done then [(cid, r.errStr)] else []) := by
  obtain ⟨hq1, hq2⟩ := quiet g (by simp [hpc])
  have := returned_run sk hy r acts s s' (.inl hpc) hrun hm hw
  simp only [hq1, hq2, g.idOk, g.nocrash, List.nil_append] at this
  exact ⟨this.1, this.2.1, this.2.2.2⟩

/-- The whole request: if the function returns `r` and neither marshal nor write fails, the request
    ends with exactly one response `(req.Call, Err r)` and without any `setErr`. -/
theorem returns_not_fatal (sk : Skeleton) (hy : Hyp sk) (hr : RespHyp sk) (cid : String) (cl : Bool)
    (r : Shape) (acts : List Act) (s' : State) (hrun : run sk (init cid cl) acts = some s')
    (hret : Act.handlerReturns r ∈ acts) (hm : Act.marshalFails ∉ acts) (hw : Act.writeFails ∉ acts) :
    s'.setErrCalls = [] ∧ s'.crashed = false ∧
    s'.responses = (if s'.pc = .done then [(cid, r.errStr)] else []) := by
  -- the run up to the return (to `m`), the return itself (to `m1`), the rest
  obtain ⟨l1, l2, rfl⟩ := List.append_of_mem hret
  obtain ⟨m, h1, hrun⟩ := Option.bind_eq_some_iff.mp ((runFrom_append (step sk) _ l1 _).symm.trans hrun)
  obtain ⟨m1, h2, hrun⟩ := Option.bind_eq_some_iff.mp ((runFrom_cons (step sk) m _ l2).symm.trans hrun)
  have g1 := reach_good sk hy (.step _ (reach_of_run sk l1 .init h1) h2)
  simp only [step, hr.untouched, if_true] at h2
  split at h2 <;> cases h2
  exact returned_run_good sk hr g1 rfl hrun (fun h => hm (by simp [h])) fun h => hw (by simp [h])

/-- … and that end is reachable: the three steps are enabled. -/
theorem returns_run (sk : Skeleton) (hr : RespHyp sk) (s : State) (r : Shape) (hpc : s.pc = .running)
    (hcl : s.isClosureEntry = false ∨ r.isTwo = true) :
    run sk s [.handlerReturns r, .marshalOk, .respond] =
      some { s with pc := .done, responses := s.responses ++ [(s.callId, r.errStr)] } := by
  rcases hcl with h | h <;> simp [run, runFrom, step, hpc, h, hr.shapes, hr.callIs, hr.onePer, hr.untouched]

/-- handler panic, from a reachable state: exactly one `setErr`, nothing written, no crash -/
theorem handlerPanics_contained (sk : Skeleton) (hy : Hyp sk) (h3 : sk.ucNonErrorPanicMapped = true)
    (h4 : sk.reqCallErrSetErr = true) {cid : String} {cl : Bool} {s s' : State} (p : PanicVal)
    (hreach : Reach sk cid cl s) (hs : step sk s (.handlerPanics p) = some s') :
    s'.setErrCalls = [.handlerPanic] ∧ s'.responses = [] ∧ s'.crashed = false ∧ s'.pc = .done := by
  have g := reach_good sk hy hreach
  obtain ⟨hpc, rfl⟩ := handlerPanics_setErr sk hy.viaCall hy.ucRec h3 h4 p hs
  obtain ⟨hq1, hq2⟩ := quiet g (by simp [hpc])
  simp [fatal, hq1, hq2, g.nocrash]

/-- closure panic, from a reachable state: `CallClosure` returns `(nil, err)`; from there, unless marshal
    or write fail, the request ends with the response `(req.Call, err.Error())` and no `setErr`; and
    that end is reachable. -/
theorem closurePanics_contained (sk : Skeleton) (hy : Hyp sk) (hr : RespHyp sk)
    (h1 : sk.clCallViaUtilsCall = true) (h3 : sk.ucNonErrorPanicMapped = true)
    {cid : String} {cl : Bool} {s s' : State} (p : PanicVal)
    (hreach : Reach sk cid cl s) (hs : step sk s (.closurePanics p) = some s') :
    s'.pc = .returned (.two (some p.msg)) ∧ s'.setErrCalls = [] ∧ s'.responses = [] ∧ s'.crashed = false ∧
    run sk s' [.marshalOk, .respond] = some { s' with pc := .done, responses := [(cid, p.msg)] } ∧
    ∀ (acts : List Act) (s'' : State), run sk s' acts = some s'' →
      Act.marshalFails ∉ acts → Act.writeFails ∉ acts →
      s''.setErrCalls = [] ∧ s''.crashed = false ∧
      s''.responses = (if s''.pc = .done then [(cid, p.msg)] else []) := by
  have g := reach_good sk hy hreach
  have g' := step_good sk hy _ g hs
  obtain ⟨hpc, _, rfl⟩ := closurePanics_returns sk h1 hy.ucRec h3 p hs
  obtain ⟨hq1, hq2⟩ := quiet g (by simp [hpc])
  refine ⟨rfl, hq2, hq1, g.nocrash, ?_, fun acts s'' hrun => returned_run_good sk hr g' rfl hrun⟩
  simp [run, runFrom, step, hr.shapes, hr.callIs, hr.onePer, hq1, g.idOk, Shape.errStr]

theorem PanicVal.msg_ne_empty (p : PanicVal) (h : ∀ m, p = .err m → m ≠ "") : p.msg ≠ "" := by
  cases p with
  | err m => exact h m rfl
  | other => simp [PanicVal.msg, nonErrorMsg]

theorem resolvePanics_contained (sk : Skeleton) (hy : Hyp sk) (h2 : sk.reqResolveErrSetErr = true)
    {cid : String} {cl : Bool} {s s' : State}
    (hreach : Reach sk cid cl s) (hs : step sk s .resolvePanics = some s') :
    s'.setErrCalls = [.lookupPanic] ∧ s'.responses = [] ∧ s'.crashed = false ∧ s'.pc = .done ∧
    s'.appCodeRan = false := by
  have g := reach_good sk hy hreach
  obtain ⟨hpc, rfl⟩ := resolvePanics_setErr sk hy.lkRec h2 hs
  obtain ⟨hq1, hq2⟩ := quiet g (by simp [hpc])
  simp [fatal, hq1, hq2, g.nocrash, g.early (Or.inl hpc)]

/-- at most one response; one of {response, setErr}, once, exactly at the end -/
theorem one_response (sk : Skeleton) (hy : Hyp sk) {cid : String} {cl : Bool} {s : State}
    (hreach : Reach sk cid cl s) :
    s.responses.length ≤ 1 ∧ (∀ x ∈ s.responses, x.1 = cid) ∧
    (s.pc ≠ .done → s.responses = [] ∧ s.setErrCalls = []) ∧
    (s.pc = .done → s.setErrCalls = [] → s.responses.length = 1) ∧
    (s.setErrCalls ≠ [] → s.pc = .done ∧ s.responses = [] ∧ s.setErrCalls.length = 1) := by
  have g := reach_good sk hy hreach
  have hc := g.count
  refine ⟨?_, g.callOk, quiet g, ?_, ?_⟩
  · split at hc <;> omega
  · intro h1 h2; simp [h1, h2] at hc; exact hc
  · intro h
    have hl : s.setErrCalls.length ≠ 0 := fun h0 => h (List.eq_nil_of_length_eq_zero h0)
    split at hc
    · rename_i hd
      exact ⟨hd, List.eq_nil_of_length_eq_zero (by omega), by omega⟩
    · omega

theorem onLoop_false (sk : Skeleton) (h1 : sk.reqResolveGoDepth ≠ 0) (h2 : sk.reqHandlerGoDepth ≠ 0)
    (s : State) : onLoopGoroutine sk s = false := by
  simp only [onLoopGoroutine]
  split <;> simp [h1, h2]

end Panrpc.Ce
