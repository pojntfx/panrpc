/-
  Lemmas/CalleeCurrent.lean — the regenerated skeleton meets the hypotheses of Lemmas/Callee.lean.
  Every line is a `by decide` about `Skeleton.current`: change the source so that one of the facts
  flips and this file (and with it Props/C05Callee, Props/C10Callee) stops compiling.
-/
import Panrpc.Lemmas.Callee
import Panrpc.Generated.Current

namespace Panrpc.Ce

theorem cur_hyp : Hyp Skeleton.current := by constructor <;> decide
theorem cur_resp : RespHyp Skeleton.current := by constructor <;> decide
theorem cur_mapped : Skeleton.current.ucNonErrorPanicMapped = true := by decide
theorem cur_callErr : Skeleton.current.reqCallErrSetErr = true := by decide
theorem cur_resolveErr : Skeleton.current.reqResolveErrSetErr = true := by decide
theorem cur_clVia : Skeleton.current.clCallViaUtilsCall = true := by decide
theorem cur_contained :
    Skeleton.current.lkRecoversPanics = true ∨ Skeleton.current.reqResolverRecovers = true :=
  Or.inl (by decide)
theorem cur_resolveGo : Skeleton.current.reqResolveGoDepth ≠ 0 := by decide
theorem cur_handlerGo : Skeleton.current.reqHandlerGoDepth ≠ 0 := by decide

end Panrpc.Ce
