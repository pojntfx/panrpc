/-
  Lemmas/Convert.lean — general lemmas about P4 (`convertValue`, the `createClosure` wrapper,
  the proxy's result half), for every skeleton that meets the stated hypotheses.
-/
import Panrpc.Model.Convert

namespace Panrpc.Cv

/-- Source facts: `convertValue` has its three working statements
    (interface unwrap loop, `ConvertibleTo`/`Convert`, element-wise slice branch). -/
structure CvShape (sk : Skeleton) : Prop where
  unwraps  : sk.cvUnwrapsInterfaces = true
  conv     : sk.cvUsesConvertibleTo = true
  elemwise : sk.cvSliceElementwise = true

theorem fallback_ne_panic (sk : Skeleton) : fallback sk ≠ .panic := by
  unfold fallback; split <;> simp

/-- `front` panics only on the zero Value (`.Type()`), and only without the guard in front of it -/
theorem front_ne_panic (sk : Skeleton) (v : GVal) (τ : Ty)
    (h : (sk.cvHandlesInvalid || v.noInvalid) = true) : front sk v τ ≠ some .panic := by
  have : (sk.cvHandlesInvalid || !v.isInvalid) = true := by
    cases v <;> simp_all [GVal.noInvalid, GVal.isInvalid]
  unfold front
  cases hv : v.isInvalid <;> simp_all <;> repeat' split <;> simp

theorem getD_ne_panic (sk : Skeleton) (o : Option Outcome) (h : o ≠ some .panic) :
    o.getD (fallback sk) ≠ .panic := by
  cases o with
  | none => exact fallback_ne_panic sk
  | some x => simpa using h

mutual
/-- General form of `C11_convert_total` and `C11_convert_total_partial`: `convertValue` panics only
    without the invalid-source guard, and then only on a source that is or contains a nil. -/
theorem convertValue_ne_panic (sk : Skeleton) :
    ∀ (g : GVal) (τ : Ty), (sk.cvHandlesInvalid || g.noInvalid) = true → convertValue sk g τ ≠ .panic
  | .iface inner, τ, h => by
    rw [convertValue]
    split
    · exact convertValue_ne_panic sk inner τ (by simpa [GVal.noInvalid] using h)
    · exact getD_ne_panic sk _ (front_ne_panic sk _ τ h)
  | .slice f xs, τ, h => by
    rw [convertValue]
    split
    · next o ho => intro e; subst e; exact front_ne_panic sk _ τ h ho
    · split
      · split
        · next e _ =>
          have ih := convertElems_ne_panic sk xs e (by simpa [GVal.noInvalid] using h)
          split <;> simp_all
        · exact fallback_ne_panic sk
      · exact fallback_ne_panic sk
  | .invalid, τ, h | .bool _, τ, h | .int _, τ, h | .uint _, τ, h | .float _, τ, h | .string _, τ, h
  | .other, τ, h => by
    rw [convertValue]; exact getD_ne_panic sk _ (front_ne_panic sk _ τ h)
theorem convertElems_ne_panic (sk : Skeleton) :
    ∀ (xs : List GVal) (e : Ty), (sk.cvHandlesInvalid || GVal.noInvalidAll xs) = true →
      convertElems sk xs e ≠ .panic
  | [], e, _ => by simp [convertElems]
  | x :: xs, e, h => by
    simp only [GVal.noInvalidAll, Bool.or_and_distrib_left, Bool.and_eq_true] at h
    have h1 := convertValue_ne_panic sk x e h.1
    have h2 := convertElems_ne_panic sk xs e h.2
    rw [convertElems]
    split
    · split <;> simp_all
    · simp
    · simp_all
end

theorem convertElems_ne_panic_of_handles (sk : Skeleton) (h : sk.cvHandlesInvalid = true) :
    ∀ (xs : List GVal) (e : Ty), convertElems sk xs e ≠ .panic :=
  fun xs e => convertElems_ne_panic sk xs e (by simp [h])
theorem convertElems_ne_panic_of_noInvalid (sk : Skeleton) :
    ∀ (xs : List GVal) (e : Ty), GVal.noInvalidAll xs = true → convertElems sk xs e ≠ .panic :=
  fun xs e h => convertElems_ne_panic sk xs e (by simp [h])

theorem supported_not_anyIface (e : Ty) (h : e.supported = true) : e.isAnyIface = false := by
  cases e <;> simp_all [Ty.supported, Ty.isAnyIface]

theorem wt_ty_supported : ∀ (v : TVal), v.wt = true → v.ty.supported = true
  | .bool _, _ | .int _, _ | .uint _, _ | .float _, _ | .string _, _ => by simp [TVal.ty, Ty.supported]
  | .slice e n xs, h => by
    simp only [TVal.wt, Bool.and_eq_true] at h
    simpa [TVal.ty, Ty.supported] using h.1.1

section
attribute [local simp] genericOf genericInt genericUint genericFloat convertValue front GVal.isInvalid
  GVal.kind convertible convertDirect TVal.ty TVal.embed

mutual
theorem convert_generic (sk : Skeleton) (hs : CvShape sk) (c : Codec) :
    ∀ (v : TVal), v.wt = true → (sk.cvHandlesInvalid || v.nilFree) = true →
      convertValue sk (genericOf c v) v.ty = .ok v.embed
  | .bool _, _, _ | .string _, _, _ | .uint _, _, _ | .float _, _, _ => by cases c <;> simp [hs.conv]
  | .int i, _, _ => by
    cases c <;> simp [hs.conv]
    split <;> simp [hs.conv]
    omega
  | .slice e true xs, hw, hn => by
    simp only [TVal.wt, Bool.and_eq_true] at hw
    have hx : xs = [] := by simpa using hw.1.2
    subst hx
    simp [TVal.nilFree] at hn
    simp [hn, zeroOf, supported_not_anyIface e hw.1.1, TVal.embedAll]
  | .slice e false xs, hw, hn => by
    simp only [TVal.wt, Bool.and_eq_true] at hw
    have he := supported_not_anyIface e hw.1.1
    have ih := convertElems_generic sk hs c xs e hw.1.1 hw.2 (by simpa [TVal.nilFree] using hn)
    -- a supported element type is never `interface{}`, so `[]interface{}` is not convertible as a whole and the
    -- element-wise branch runs
    have hc : convertible .sliceIface (.slice e) = false := by
      cases e <;> simp_all [Ty.isAnyIface]
    simp [-convertible, hs.conv, hs.elemwise, hc, Ty.elem?, ih, he]
theorem convertElems_generic (sk : Skeleton) (hs : CvShape sk) (c : Codec) :
    ∀ (xs : List TVal) (e : Ty), e.supported = true → TVal.wtAll e xs = true →
      (sk.cvHandlesInvalid || TVal.nilFreeAll xs) = true →
      convertElems sk (genericOfAll c xs) e = .ok (TVal.embedAll xs)
  | [], e, _, _, _ => by simp [genericOfAll, convertElems, TVal.embedAll]
  | x :: xs, e, he, hw, hn => by
    simp only [TVal.wtAll, Bool.and_eq_true, decide_eq_true_eq] at hw
    simp only [TVal.nilFreeAll, Bool.or_and_distrib_left, Bool.and_eq_true] at hn
    have h1 := convert_generic sk hs c x hw.1.1 hn.1
    have h2 := convertElems_generic sk hs c xs e he hw.2 hn.2
    rw [hw.1.2] at h1
    simp [genericOfAll, convertElems, hs.unwraps, h1, h2, TVal.embedAll]
end
end

theorem convertArgs_generic (sk : Skeleton) (hs : CvShape sk) (c : Codec) :
    ∀ (vals : List TVal),
      (∀ v, v ∈ vals → v.wt = true ∧ (sk.cvHandlesInvalid || v.nilFree) = true) →
      convertArgs sk (vals.map TVal.ty) (vals.map (genericOf c)) = .ok (vals.map TVal.embed)
  | [], _ => by simp [convertArgs]
  | v :: vs, h => by
    have hv := h v (by simp)
    have ih := convertArgs_generic sk hs c vs (fun w hw => h w (by simp [hw]))
    simp [convertArgs, convert_generic sk hs c v hv.1 hv.2, ih]

/-- General form of `C11_args_converted`. -/
theorem wrapper_generic (sk : Skeleton) (hs : CvShape sk) (c : Codec) (vals : List TVal)
    (h : ∀ v, v ∈ vals → v.wt = true ∧ (sk.cvHandlesInvalid || v.nilFree) = true) :
    wrapper sk (vals.map TVal.ty) (vals.map (genericOf c)) = .ran (vals.map TVal.embed) := by
  simp [wrapper, convertArgs_generic sk hs c vals h]

/-- General form of `C11_arg_count_mismatch_is_error_not_panic`. -/
theorem wrapper_count_mismatch (sk : Skeleton) (hc : sk.clArgCountChecked = true)
    (tys : List Ty) (args : List GVal) (h : args.length ≠ tys.length) :
    wrapper sk tys args = .errResult .argsCount := by
  simp [wrapper, hc, h]

theorem convertArgs_ok_length (sk : Skeleton) :
    ∀ (tys : List Ty) (args vs : List GVal), convertArgs sk tys args = .ok vs → vs.length = args.length
  | _, [], vs, h => by simp [convertArgs] at h; simp [← h]
  | [], _ :: _, vs, h => by simp [convertArgs] at h
  | τ :: ts, a :: as, vs, h => by
    simp only [convertArgs] at h
    cases hv : convertValue sk a τ <;> simp only [hv] at h <;> try cases h
    cases ho : convertArgs sk ts as <;> simp only [ho] at h <;> cases h
    simp [convertArgs_ok_length sk ts as _ ho]

theorem convertArgs_ne_panic (sk : Skeleton) :
    ∀ (tys : List Ty) (args : List GVal), args.length ≤ tys.length →
      (∀ a, a ∈ args → ∀ τ, convertValue sk a τ ≠ .panic) → convertArgs sk tys args ≠ .panic
  | _, [], _, _ => by simp [convertArgs]
  | [], _ :: _, hl, _ => by simp at hl
  | τ :: ts, a :: as, hl, h => by
    have h1 := h a (by simp) τ
    have h2 := convertArgs_ne_panic sk ts as (by simpa using hl) (fun b hb => h b (by simp [hb]))
    rw [convertArgs]
    split
    · split <;> simp_all
    · simp
    · simp_all

/-- With the count check in place no panic leaves the wrapper unless some argument is or contains
    a nil and the guard is missing. -/
theorem wrapper_ne_panicOut (sk : Skeleton) (hc : sk.clArgCountChecked = true)
    (tys : List Ty) (args : List GVal)
    (h : ∀ a, a ∈ args → (sk.cvHandlesInvalid || a.noInvalid) = true) : wrapper sk tys args ≠ .panicOut := by
  unfold wrapper
  by_cases hl : args.length = tys.length
  · have hp := convertArgs_ne_panic sk tys args (by omega) fun a ha τ => convertValue_ne_panic sk a τ (h a ha)
    simp only [hc, hl, bne_self_eq_false, Bool.and_false]
    cases ho : convertArgs sk tys args with
    | panic => exact absurd ho hp
    | err => simp
    | ok vs => simp [convertArgs_ok_length sk tys args vs ho, hl]
  · simp [hc, hl]

/-- A valid source that is neither interface-kinded nor a slice headed for a slice type, and whose
    type is not convertible to the destination, yields the ordinary error. -/
theorem convertValue_err_of_inconvertible (sk : Skeleton) (hf : sk.cvFallbackError = true)
    (g : GVal) (τ : Ty) (hv : g.isInvalid = false) (hi : g.kind ≠ .iface)
    (hsl : τ.elem? = none ∨ (g.kind ≠ .sliceIface ∧ g.kind ≠ .sliceTyped))
    (hc : convertible g.kind τ = false) : convertValue sk g τ = .err := by
  have hfr : front sk g τ = none := by
    unfold front; simp [hv, hc]
  cases g with
  | iface _ => simp [GVal.kind] at hi
  | invalid => simp [GVal.isInvalid] at hv
  | slice f xs =>
    rw [convertValue, hfr]
    rcases hsl with h | h
    · simp [h, fallback, hf]
    · cases f <;> simp [GVal.kind] at h
  | _ => rw [convertValue, hfr]; simp [fallback, hf]

/-- The first argument whose conversion fails decides: `ErrInvalidArg`, when every argument before it converts to
    its own declared type. -/
theorem convertArgs_err_at (sk : Skeleton) (τ : Ty) (a : GVal) (tpost : List Ty) (post : List GVal)
    (he : convertValue sk a τ = .err) :
    ∀ (tpre : List Ty) (pre : List GVal), pre.length = tpre.length →
      (∀ x ∈ pre.zip tpre, ∃ v, convertValue sk x.1 x.2 = .ok v) →
      convertArgs sk (tpre ++ τ :: tpost) (pre ++ a :: post) = .err
  | [], [], _, _ => by simp [convertArgs, he]
  | [], _ :: _, hl, _ | _ :: _, [], hl, _ => by simp at hl
  | σ :: tpre, p :: pre, hl, hp => by
    obtain ⟨v, hv⟩ := hp (p, σ) (by simp)
    have ih := convertArgs_err_at sk τ a tpost post he tpre pre (by simpa using hl) fun x hx => hp x (by simp [hx])
    simp [convertArgs, hv, ih]

theorem wrapper_err_at (sk : Skeleton)
    (tpre : List Ty) (pre : List GVal) (τ : Ty) (a : GVal) (tpost : List Ty) (post : List GVal)
    (hl : pre.length = tpre.length) (hl' : post.length = tpost.length)
    (hp : ∀ x ∈ pre.zip tpre, ∃ v, convertValue sk x.1 x.2 = .ok v)
    (he : convertValue sk a τ = .err) :
    wrapper sk (tpre ++ τ :: tpost) (pre ++ a :: post) = .errResult .arg := by
  simp [wrapper, convertArgs_err_at sk τ a tpost post he tpre pre hl hp, hl, hl']

theorem genericOf_isInvalid (c : Codec) : ∀ (v : TVal), (genericOf c v).isInvalid = true →
    ∃ e xs, v = .slice e true xs
  | .bool _, h | .string _, h | .float _, h | .uint _, h => by
    cases c <;> simp [genericOf, genericFloat, genericUint, GVal.isInvalid] at h
  | .int i, h => by
    cases c
    · simp [genericOf, genericInt, GVal.isInvalid] at h
    · simp only [genericOf, genericInt] at h; split at h <;> simp [GVal.isInvalid] at h
  | .slice e true xs, _ => ⟨e, xs, rfl⟩
  | .slice e false xs, h => by simp [genericOf, GVal.isInvalid] at h

/-- General form of `C11_result_back` (value part). The guard makes a nil result the zero value
    without `convertValue`; everything else is converted as in the argument direction. -/
theorem proxyResult_generic (sk : Skeleton) (hs : CvShape sk) (c : Codec) (v : TVal)
    (hw : v.wt = true) (hn : (sk.cvHandlesInvalid || v.innerNilFree) = true) :
    proxyResult sk true v.ty (genericOf c v) = .ok v.embed := by
  unfold proxyResult
  cases hinv : (genericOf c v).isInvalid
  · simp only [Bool.and_false, Bool.false_eq_true, if_false]
    apply convert_generic sk hs c v hw
    cases v with
    | slice e n xs =>
      cases n
      · simpa [TVal.nilFree, TVal.innerNilFree] using hn
      · simp [genericOf, GVal.isInvalid] at hinv
    | _ => simp [TVal.nilFree]
  · obtain ⟨e, xs, rfl⟩ := genericOf_isInvalid c v hinv
    simp only [TVal.wt, Bool.and_eq_true] at hw
    have hx : xs = [] := by simpa using hw.1.2
    subst hx
    simp [zeroOf, supported_not_anyIface e hw.1.1, TVal.ty, TVal.embed, TVal.embedAll]

theorem proxyResult_nil (sk : Skeleton) (ρ : Ty) : proxyResult sk true ρ .invalid = .ok (zeroOf ρ) := by
  simp [proxyResult, GVal.isInvalid]

/-- With the guard, only a nil *inside* the decoded result can make this direction panic. -/
theorem proxyResult_ne_panic (sk : Skeleton) (ρ : Ty) (el : GVal)
    (h : el = .invalid ∨ el.noInvalid = true) : proxyResult sk true ρ el ≠ .panic := by
  unfold proxyResult
  split
  · simp
  · exact convertValue_ne_panic sk el ρ (by rcases h with rfl | h <;> simp_all [GVal.isInvalid])

end Panrpc.Cv
