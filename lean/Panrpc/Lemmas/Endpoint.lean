/-
  Lemmas/Endpoint.lean — the ground every M2 proof stands on.
    * `ModelFits`: the source facts M2 hard-wires into its shape.
    * `Step`: `step` as a relation (`Step.of_step`, `Step.to_step`), the embedded M1 step a premise of the
      constructors that take one; invariants are preserved constructor by constructor, enabledness facts are
      constructors applied to their guards.
    * `Step.call_local`: the components of a call are written by the steps of that call only.
    * The projection of M2 onto M1: every M2 step leaves the embedded broadcaster alone or is exactly one
      `Bc.step`; hence every reachable M2 state embeds a reachable M1 state and inherits M1's invariants
      (WF, NC, WK, DL) without redoing them.
    * The closure table's mutex, and the crash flag.
-/
import Panrpc.Model.Endpoint
import Panrpc.Lemmas.Broadcaster

namespace Panrpc.Ep


/-- Source facts that M2 hard-wires into its shape (the order of the stub's program counters,
    which key / context / thread the embedded broadcaster is used with, which critical sections
    are atomic steps).  They are not hypotheses of a proof — no theorem could use them — but the
    model is a model of the source only while they hold: `cur_model_fits` (EndpointCurrent.lean)
    checks them against the regenerated skeleton, and every M2 property file imports it. -/
structure ModelFits (sk : Skeleton) : Prop where
  callIdFresh        : sk.stubCallIdFresh = true              -- call id = thread index
  recvKeyIsCallId    : sk.stubReceiveKeyIsCallId = true       -- `.receive c c x`
  recvCtxIsCallCtx   : sk.stubReceiveCtxIsCallCtx = true      -- … with the call's own context
  recvBeforeWrite    : sk.stubRecvBeforeWrite = true          -- marshalled → registered → … → written
  spawnBeforeWrite   : sk.stubWaiterSpawnedBeforeWrite = true
  errToCancelled     : sk.stubWaiterMapsErrToCancelled = true -- `fromFrame = none` ⇔ cancelled
  errFromResponse    : sk.stubErrResultFromResponse = true    -- error result nil iff `r.err = .none`
  fixesArity         : sk.stubFixesArity = true               -- recover path returns `(zero, e)`
  pubKeyIsResCall    : sk.respPublishKeyIsResCall = true      -- `respFrame p callId …` publishes on callId
  pubValueIsResValue : sk.respPublishValueIsResValue = true
  respErrIffNonBlank : sk.respErrIffTrimNonEmpty = true       -- `hasErr`
  closureIdFresh     : sk.clIdFresh = true
  closureLookupLocked : sk.clLookupUnderLock = true           -- `closureInvoke` is one step
  closureInsertLocked : sk.clInsertUnderLock = true
  closureDeleteLocked : sk.clDeleteUnderLock = true
  closureMissIsError : sk.clMissingIsError = true
  storeLocked        : sk.seStoreUnderLock = true             -- `setErrStore` is one step
  watcher            : sk.watcherCallsSetErr = true
  pubLookupLocked    : sk.bcPublishLooksUpUnderLock = true
  freeLocked         : sk.bcFreeUnderLock = true
  closeLocked        : sk.bcCloseUnderLock = true

/-- where `Receive` leaves the stub: it panics with the error `Receive` returned, if any -/
@[grind] def recvPc : Bc.Rcv → CallPc
  | .refused => .panicking eClosed
  | .refusedCtx => .panicking eCallCtx
  | _ => .registered

theorem recvPc_cases (r : Bc.Rcv) :
    recvPc r = .panicking eClosed ∨ recvPc r = .panicking eCallCtx ∨ recvPc r = .registered := by
  cases r <;> simp [recvPc]

grind_pattern recvPc_cases => recvPc r

/-- `step` as a relation: one constructor per branch, its guards as premises; where `step` runs the embedded
    broadcaster, the premise is that M1 step (`bc'` is its result).  `Step.of_step` and `Step.to_step`: the
    relation is exactly `step`, so an enabledness fact is the application of a constructor. -/
inductive Step (sk : Skeleton) (s : State) : Act → State → Prop
  | callStart {c x numOut nCl} : s.crashed = false → (s.calls c).pc = .absent → s.setters c = .absent →
      (numOut = 1 ∨ numOut = 2) → (newClosures sk s nCl ≠ [] → s.clLock = none) →
      Step sk s (.callStart c x numOut nCl)
        { s with calls := upd s.calls c { pc := .marshalled, ctx := x, numOut := numOut,
                                          closures := newClosures sk s nCl, outcome := .pending },
                 closures := fun id => if id ∈ newClosures sk s nCl then true else s.closures id,
                 owner := fun id => if id ∈ newClosures sk s nCl then some c else s.owner id,
                 nextClosure := s.nextClosure + (newClosures sk s nCl).length }
  | callMarshalFail {c} : s.crashed = false → (s.calls c).pc = .marshalled →
      Step sk s (.callMarshalFail c) { s with calls := upd s.calls c { s.calls c with pc := .panicking eMarshal } }
  | callReceive {c bc'} : s.crashed = false → (s.calls c).pc = .marshalled →
      Bc.Step sk s.bc (.receive c c (s.calls c).ctx) bc' →
      Step sk s (.callReceive c)
        { s with bc := bc', crashed := bc'.crashed,
                 calls := upd s.calls c { s.calls c with pc := recvPc (bc'.rcvs c) } }
  | callSpawn {c} : s.crashed = false → (s.calls c).pc = .registered →
      Step sk s (.callSpawn c)
        { s with calls := upd s.calls c { s.calls c with pc := .spawned }, waiters := upd s.waiters c .start }
  | callWrite {c} : s.crashed = false → (s.calls c).pc = .spawned → s.linkCtxDone = false →
      Step sk s (.callWrite c) { s with calls := upd s.calls c { s.calls c with pc := .written } }
  | callWriteFail {c e} : s.crashed = false → (s.calls c).pc = .spawned →
      Step sk s (.callWriteFail c e)
        { s with calls := upd s.calls c { s.calls c with
                            pc := .panicking (if s.linkCtxDone = true then eLinkCtx else eExt e) } }
  | waiterRecvCall {c bc'} : s.crashed = false → s.waiters c = .start → Bc.Step sk s.bc (.rcvCall c) bc' →
      Step sk s (.waiterRecvCall c) { s with bc := bc', crashed := bc'.crashed, waiters := upd s.waiters c .recv }
  | waiterGetsValue {c p k v g bc'} : s.crashed = false → s.waiters c = .recv → s.bc.pubs p = .holding k v g →
      Bc.Step sk s.bc (.rcvValue c p) bc' →
      Step sk s (.waiterGetsValue c p)
        { s with bc := bc', crashed := bc'.crashed,
                 waiters := upd s.waiters c (.have { fromFrame := some v,
                                                     err := if s.pubErr p = true then .app else .none }) }
  | waiterGetsDone {c bc'} : s.crashed = false → s.waiters c = .recv → Bc.Step sk s.bc (.rcvDone c) bc' →
      Step sk s (.waiterGetsDone c)
        { s with bc := bc', crashed := bc'.crashed,
                 waiters := upd s.waiters c (.have { fromFrame := none, err := .closed }) }
  | waiterGetsChanClosed {c bc'} : s.crashed = false → s.waiters c = .recv →
      Bc.step sk s.bc (.rcvDone c) = none → Bc.Step sk s.bc (.rcvChanClosed c) bc' →
      Step sk s (.waiterGetsDone c)
        { s with bc := bc', crashed := bc'.crashed,
                 waiters := upd s.waiters c (.have { fromFrame := none, err := .closed }) }
  | waiterGetsCtx {c bc'} : s.crashed = false → s.waiters c = .recv → Bc.Step sk s.bc (.rcvCtx c) bc' →
      Step sk s (.waiterGetsCtx c)
        { s with bc := bc', crashed := bc'.crashed,
                 waiters := upd s.waiters c (.have { fromFrame := none, err := .ctxErr }) }
  | waiterSend {c r} : s.crashed = false → s.waiters c = .have r →
      (if sk.stubResChanCap = 0 then (s.calls c).pc = .written ∧ s.res c = []
       else (s.res c).length < sk.stubResChanCap) →
      Step sk s (.waiterSend c) { s with res := upd s.res c (s.res c ++ [r]), waiters := upd s.waiters c .sent }
  | waiterFree {c bc'} : s.crashed = false → s.waiters c = .sent → sk.stubWaiterFreesOnExit = true →
      Bc.Step sk s.bc (.free c) bc' →
      Step sk s (.waiterFree c) { s with bc := bc', crashed := bc'.crashed, waiters := upd s.waiters c .exited }
  | waiterExit {c} : s.crashed = false → s.waiters c = .sent → sk.stubWaiterFreesOnExit ≠ true →
      Step sk s (.waiterFree c) { s with waiters := upd s.waiters c .exited }
  | takeCtxPanic {c fail r rest} : s.crashed = false → (s.calls c).pc = .written → sk.stubSelectsRes = true →
      s.res c = r :: rest → sk.panicSitesCanonical = false → r.err = .ctxErr →
      Step sk s (.callTakeRes c fail)
        { s with res := upd s.res c rest, calls := upd s.calls c { s.calls c with pc := .panicking eCallCtx } }
  | takeDecodeFail {c fail r rest} : s.crashed = false → (s.calls c).pc = .written → sk.stubSelectsRes = true →
      s.res c = r :: rest → ¬ (sk.panicSitesCanonical = false ∧ r.err = .ctxErr) →
      decodes sk (s.calls c).numOut r = true → fail = true →
      Step sk s (.callTakeRes c fail)
        { s with res := upd s.res c rest, calls := upd s.calls c { s.calls c with pc := .panicking eDecode } }
  | callTakeRes {c fail r rest} : s.crashed = false → (s.calls c).pc = .written → sk.stubSelectsRes = true →
      s.res c = r :: rest → ¬ (sk.panicSitesCanonical = false ∧ r.err = .ctxErr) →
      ¬ (decodes sk (s.calls c).numOut r = true ∧ fail = true) →
      Step sk s (.callTakeRes c fail)
        { s with res := upd s.res c rest,
                 calls := upd s.calls c { s.calls c with pc := .decoded, outcome := .ok r } }
  | callLinkCtx {c} : s.crashed = false → (s.calls c).pc = .written → s.linkCtxDone = true →
      sk.stubSelectsLinkCtx = true → (sk.stubResChanCap = 0 → s.res c = []) →
      Step sk s (.callLinkCtx c) { s with calls := upd s.calls c { s.calls c with pc := .panicking eLinkCtx } }
  | callRecover {c e} : s.crashed = false → (s.calls c).pc = .panicking e → canRelease sk s c →
      sk.stubRecovers = true →
      Step sk s (.callRecover c e)
        { s with closures := freeClosures sk s c,
                 calls := upd s.calls c { s.calls c with pc := .returned, outcome := .failed e },
                 setters := if sk.stubRecoverCallsSetErr = true then upd s.setters c (.entered e) else s.setters }
  | callUnrecovered {c e} : s.crashed = false → (s.calls c).pc = .panicking e → canRelease sk s c →
      sk.stubRecovers ≠ true →
      Step sk s (.callRecover c e) { s with crashed := true }
  | callReturnOk {c} : s.crashed = false → (s.calls c).pc = .decoded → canRelease sk s c →
      Step sk s (.callReturnOk c)
        { s with closures := freeClosures sk s c, calls := upd s.calls c { s.calls c with pc := .returned } }
  | respFrame {p callId frameId hasErr bc'} : s.crashed = false →
      Bc.Step sk s.bc (.pubStart p callId frameId) bc' →
      Step sk s (.respFrame p callId frameId hasErr)
        { s with bc := bc', crashed := bc'.crashed, pubErr := upd s.pubErr p hasErr }
  | pubLookup {p bc'} : s.crashed = false → Bc.Step sk s.bc (.pubLookup p) bc' →
      Step sk s (.pubLookup p) { s with bc := bc', crashed := bc'.crashed }
  | pubCtx {p bc'} : s.crashed = false → Bc.Step sk s.bc (.pubCtx p) bc' →
      Step sk s (.pubCtx p) { s with bc := bc', crashed := bc'.crashed }
  | pubSendClosed {p bc'} : s.crashed = false → Bc.Step sk s.bc (.pubSendClosed p) bc' →
      Step sk s (.pubSendClosed p) { s with bc := bc', crashed := bc'.crashed }
  | closureInvoke {q id} : s.crashed = false → s.clLock = none →
      (sk.clStoresCreatedClosure = true ∨
        s.invokes.all (fun iv => decide (s.running iv.thread ≠ some id)) = true) →
      Step sk s (.closureInvoke q id)
        { s with invokes := { thread := q, id := id, hit := s.closures id } :: s.invokes,
                 running := if s.closures id = true then upd s.running q (some id) else s.running,
                 clLock := if s.closures id = true ∧ sk.clInvokeOutsideLock = false then some q else none }
  | closureBodyDone {q} : s.crashed = false → s.running q ≠ none →
      Step sk s (.closureBodyDone q)
        { s with running := upd s.running q none, clLock := if s.clLock = some q then none else s.clLock }
  | setErrEnter {t e} : s.crashed = false → s.setters t = .absent → (s.calls t).pc = .absent →
      Step sk s (.setErrEnter t e) { s with setters := upd s.setters t (.entered (eExt e)) }
  | storeThenClose {t e} : s.crashed = false → s.setters t = .entered e → sk.seOrder = .storeThenClose →
      Step sk s (.setErrStore t) { store sk s e with setters := upd s.setters t (.stored e) }
  | storeOnly {t e} : s.crashed = false → s.setters t = .entered e → sk.seOrder = .noClose →
      Step sk s (.setErrStore t) { store sk s e with setters := upd s.setters t .done }
  | storeAfterClose {t e} : s.crashed = false → s.setters t = .closedFirst e → sk.seOrder = .closeThenStore →
      Step sk s (.setErrStore t) { store sk s e with setters := upd s.setters t .done }
  | closeAfterStore {t e bc'} : s.crashed = false → s.setters t = .stored e → sk.seOrder = .storeThenClose →
      Bc.Step sk s.bc .close bc' →
      Step sk s (.setErrClose t) { s with bc := bc', crashed := bc'.crashed, setters := upd s.setters t .done }
  | closeThenStore {t e bc'} : s.crashed = false → s.setters t = .entered e → sk.seOrder = .closeThenStore →
      Bc.Step sk s.bc .close bc' →
      Step sk s (.setErrClose t)
        { s with bc := bc', crashed := bc'.crashed, setters := upd s.setters t (.closedFirst e) }
  | watcher {t} : s.crashed = false → s.linkCtxDone = true → s.watcherFired = false →
      sk.watcherCallsSetErr = true → s.setters t = .absent → (s.calls t).pc = .absent →
      Step sk s (.watcher t) { s with watcherFired := true, setters := upd s.setters t (.entered eLinkCtx) }
  | linkPark : s.crashed = false → s.link = .running → s.slot = none → sk.linkWaitsOnCond = true →
      Step sk s .linkCheck { s with link := .waiting }
  | linkCheck : s.crashed = false → s.link = .running → ¬ (s.slot = none ∧ sk.linkWaitsOnCond = true) →
      Step sk s .linkCheck { s with link := .read s.slot }
  | linkWake : s.crashed = false → s.link = .woken → Step sk s .linkWake { s with link := .read s.slot }
  | linkReturn {e} : s.crashed = false → s.link = .read e → Step sk s .linkReturn { s with link := .returned e }
  | ctxCancel {x bc'} : s.crashed = false → Bc.Step sk s.bc (.ctxCancel x) bc' →
      Step sk s (.ctxCancel x) { s with bc := bc', crashed := bc'.crashed }
  | ctxPropagate {g bc'} : s.crashed = false → Bc.Step sk s.bc (.ctxPropagate g) bc' →
      Step sk s (.ctxPropagate g) { s with bc := bc', crashed := bc'.crashed }
  | cancelLink : s.crashed = false → Step sk s .cancelLink { s with linkCtxDone := true }

theorem Step.of_step {sk : Skeleton} {s s' : State} {a : Act} (hs : step sk s a = some s') : Step sk s a s' := by
  cases a <;> simp only [step] at hs
  all_goals repeat' first | cases hs | split at hs
  -- `constructor` takes the first constructor whose conclusion fits.  Three cases need theirs by name: two branches share
  -- their conclusion with an earlier one, and `callReceive` is ONE constructor whose new pc is `recvPc` of M1's outcome
  all_goals first
    | (constructor <;> first | assumption | exact Bc.Step.of_step ‹_› | (simp_all; done))
    | exact .waiterGetsChanClosed (by simp_all) (by simp_all) ‹_› (Bc.Step.of_step ‹_›)
    | (have hb := Bc.Step.of_step ‹Bc.step _ _ (.receive ..) = _›
       have := Step.callReceive (s := s) (by simp_all) (by simp_all) hb
       unfold recvPc at this; split at this <;> simp_all; done)
    | exact .storeAfterClose ‹_› ‹_› ‹_›

theorem Step.to_step {sk : Skeleton} {s s' : State} {a : Act} (hs : Step sk s a s') : step sk s a = some s' := by
  cases hs <;> (try have hb := Bc.Step.to_step ‹_›)
  case callReceive => cases h : (_ : Bc.State).rcvs _ <;> simp [step, recvPc, *]
  all_goals simp [step, *] <;> first | assumption | (intro h; simp_all)

/-! ### tactics: the case split over `step` as a function, by groups of actions

  No proof calls them: preservation goes through `Step` (`inv_cases`), and the grouping of actions they name
  (`Act.grp`) is not defined. -/

/-- case split over the actions of one group and over the branches of `step` -/
macro "ep_group" a:ident hs:ident hg:ident : tactic => `(tactic| (
  cases $a:ident <;> (try (simp [Act.grp] at $hg:ident; done)) <;> simp only [step] at $hs:ident
  all_goals (repeat' split at $hs:ident) <;> (try simp at $hs:ident) <;> (try subst $hs:ident)))

/-- unfold the embedded M1 step of the current case (if any) into its branches -/
macro "bc_unfold" : tactic => `(tactic| (
  all_goals try (have hb := ‹Bc.step _ _ _ = some _›)
  all_goals try (simp only [Bc.step] at hb)
  all_goals try ((repeat' split at hb) <;> (try simp at hb) <;> (try subst hb))))

macro "lk_tac" a:ident h:ident hs:ident hg:ident : tactic => `(tactic| (
  obtain ⟨h1, h2, h3, h4, h5, h6, h7, h8⟩ := $h:ident
  ep_group $a:ident $hs:ident $hg:ident
  bc_unfold
  all_goals first
    | exact ⟨h1, h2, h3, h4, h5, h6, h7, h8⟩
    | (refine ⟨?_, ?_, ?_, ?_, ?_, ?_, ?_, ?_⟩ <;> intros <;>
        grind [upd_apply, phase, rcvCtx, Bc.Rcv.binding])))

macro "ju_tac" a:ident h:ident hs:ident hg:ident : tactic => `(tactic| (
  obtain ⟨h1, h2, h3⟩ := $h:ident
  ep_group $a:ident $hs:ident $hg:ident
  bc_unfold
  all_goals first
    | exact ⟨h1, h2, h3⟩
    | (refine ⟨?_, ?_, ?_⟩ <;> intros <;> grind [upd_apply, Good, delivered, Bc.Rcv.binding])))

macro "ti_tac" a:ident h:ident hs:ident hg:ident : tactic => `(tactic| (
  obtain ⟨h1⟩ := $h:ident
  ep_group $a:ident $hs:ident $hg:ident
  bc_unfold
  all_goals first
    | exact ⟨h1⟩
    | (refine ⟨?_⟩ <;> intros <;> grind [upd_apply])))

/-- every M2 step leaves the embedded broadcaster alone or is exactly one M1 step -/
theorem Step.bc {sk : Skeleton} {s s' : State} {a : Act} (hs : Step sk s a s') :
    s'.bc = s.bc ∨ ∃ b, Bc.Step sk s.bc b s'.bc := by
  cases hs <;> first | exact .inl rfl | exact .inr ⟨_, ‹_›⟩

theorem reach_bc (sk : Skeleton) {s : State} (h : Reach sk s) : Bc.Reach sk s.bc := by
  induction h with
  | init => exact Bc.Reach.init
  | step a _ hs ih =>
    rcases (Step.of_step hs).bc with e | ⟨b, hb⟩
    · rwa [e]
    · exact Bc.Reach.step b ih hb.to_step

/-- the call a step belongs to (stub and waiter steps) -/
def actCall : Act → Option Nat
  | .callStart c .. | .callMarshalFail c | .callReceive c | .callSpawn c | .callWrite c
  | .callWriteFail c _ | .waiterRecvCall c | .waiterGetsValue c _ | .waiterGetsDone c | .waiterGetsCtx c
  | .waiterSend c | .waiterFree c | .callTakeRes c _ | .callLinkCtx c | .callRecover c _
  | .callReturnOk c => some c
  | _ => none

/-- A step that is not a step of call `c` leaves the stub, the waiter, the `res` channel and the M1 receiver thread of
    `c` alone, and its table entry too unless it is `Close`, which may remove it.  A statement about what any step does
    to call `c` is therefore a statement about the sixteen actions of `c`. -/
theorem Step.call_local {sk : Skeleton} {s s' : State} {a : Act} (hs : Step sk s a s') {c : Nat}
    (h : actCall a ≠ some c) :
    s'.calls c = s.calls c ∧ s'.waiters c = s.waiters c ∧ s'.res c = s.res c ∧ s'.bc.rcvs c = s.bc.rcvs c ∧
    (s'.bc.table c = s.bc.table c ∨ (∃ t, a = .setErrClose t) ∧ s'.bc.table c = none) := by
  have h : ∀ c0, actCall a = some c0 → ¬ c = c0 := fun c0 e e' => h (e' ▸ e)
  cases hs <;> (try cases ‹Bc.Step _ _ _ _›) <;> simp [actCall] at h <;> simp [upd, store, *]
  split <;> simp [upd, *]

/-- So an invariant that speaks of one call at a time, and of these four components only, is preserved by every step if
    the steps of a call preserve it for that call. -/
theorem Step.call_inv {sk : Skeleton} {s s' : State} {a : Act} (hs : Step sk s a s')
    {P : Nat → Call → Waiter → List Resp → Bc.Rcv → Prop}
    (own : ∀ c, actCall a = some c → P c (s.calls c) (s.waiters c) (s.res c) (s.bc.rcvs c) →
      P c (s'.calls c) (s'.waiters c) (s'.res c) (s'.bc.rcvs c))
    (h : ∀ c, P c (s.calls c) (s.waiters c) (s.res c) (s.bc.rcvs c)) (c : Nat) :
    P c (s'.calls c) (s'.waiters c) (s'.res c) (s'.bc.rcvs c) := by
  by_cases ha : actCall a = some c
  · exact own c ha (h c)
  · obtain ⟨e1, e2, e3, e4, -⟩ := hs.call_local ha
    rw [e1, e2, e3, e4]; exact h c

theorem reach_wf (sk : Skeleton) {s : State} (h : Reach sk s) : Bc.WF s.bc := Bc.reach_wf (reach_bc sk h)
theorem reach_nc (sk : Skeleton) (hy : Bc.Hyg sk) (hn : Bc.NoChanClose sk) {s : State} (h : Reach sk s) :
    Bc.NC s.bc := Bc.reach_nc hy hn (reach_bc sk h)
theorem reach_wk (sk : Skeleton) (hy : Bc.Hyg sk) (hk : Bc.Wakes sk) {s : State} (h : Reach sk s) :
    Bc.WK s.bc := Bc.reach_wk hy hk (reach_bc sk h)
theorem reach_dl (sk : Skeleton) {s : State} (h : Reach sk s) : Bc.DL s.bc := Bc.reach_dl (reach_bc sk h)
theorem reach_lock_free (sk : Skeleton) (hsel : sk.bcPublishSelectOutsideLock = true) {s : State}
    (h : Reach sk s) : s.bc.lockHolder = none := Bc.reach_lock_free hsel (reach_bc sk h)

/-- `closuresLock` is held (between steps) only by a thread that is inside a closure body: the one
    step that keeps it is a hit of `closureInvoke`, and `closureBodyDone` of that thread releases it. -/
theorem reach_cl_holder_runs (sk : Skeleton) {s : State} (h : Reach sk s) :
    ∀ q, s.clLock = some q → s.running q ≠ none := by
  induction h with
  | init => intro q hq; simp [init] at hq
  | step a _ hs ih => have hs := Step.of_step hs; inv_cases hs

/-- when `CallClosure` unlocks before it calls the closure, the mutex is free between any two steps -/
theorem reach_cl_free (sk : Skeleton) (ho : sk.clInvokeOutsideLock = true) {s : State}
    (h : Reach sk s) : s.clLock = none := by
  induction h with
  | init => rfl
  | step a _ hs ih => have hs := Step.of_step hs; inv_cases hs

theorem reach_no_crash (sk : Skeleton) (hrec : sk.stubRecovers = true) (hy : Bc.Hyg sk)
    (hn : Bc.NoChanClose sk) {s : State} (h : Reach sk s) : s.crashed = false := by
  -- M2's flag is copied from the embedded broadcaster's at every M1 step: M1's `NC`, taken at the state REACHED, decides it
  have hnc := (reach_nc sk hy hn h).nocrash
  cases h with
  | init => rfl
  | step a hr hs => cases Step.of_step hs <;> first | assumption | contradiction

end Panrpc.Ep
