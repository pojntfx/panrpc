/-
  Lemmas/EndpointClosure.lean — the closure table is exactly the set of closure ids registered by
  calls that have not returned yet (C12).  `owner` is the ghost map closure id → registering call.
-/
import Panrpc.Lemmas.Endpoint

namespace Panrpc.Ep

/-- Source fact: `defer freeClosure()` follows every `registerClosure`. -/
structure ClosureFreed (sk : Skeleton) : Prop where
  deferred : sk.stubClosureFreeDeferred = true
  fresh    : sk.clIdFresh = true      -- a fresh id per registration (not one derived from the table's size)

structure CI (s : State) : Prop where
  own_lt     : ∀ id c, s.owner id = some c → id < s.nextClosure
  own_mem    : ∀ id c, s.owner id = some c → id ∈ (s.calls c).closures
  mem_own    : ∀ id c, id ∈ (s.calls c).closures → s.owner id = some c
  tbl_owned  : ∀ id, s.closures id = true → s.owner id ≠ none
  tbl_live   : ∀ id c, s.closures id = true → s.owner id = some c → (s.calls c).pc ≠ .returned
  live_tbl   : ∀ id c, s.owner id = some c → (s.calls c).pc ≠ .returned → s.closures id = true
  absent_nil : ∀ c, (s.calls c).pc = .absent → (s.calls c).closures = []

theorem ci_init : CI init := by constructor <;> simp [init, Call.none]

theorem CI.tbl_unowned {s : State} (h : CI s) {id : Nat} (ho : s.owner id = none) : s.closures id = false :=
  Bool.of_not_eq_true fun ht => h.tbl_owned id ht ho

theorem ci_step {sk : Skeleton} {s s' : State} {a : Act} (hd : ClosureFreed sk) (h : CI s)
    (hs : Step sk s a s') : CI s' where
  own_lt := by
    have := h.own_lt
    inv_cases hs [newClosures]
  own_mem := by
    have := h.own_mem; have := h.absent_nil
    inv_cases hs
  mem_own := by
    have := h.mem_own; have := h.own_lt; have := hd.fresh
    inv_cases hs [newClosures]
  tbl_owned := by
    have := h.tbl_owned
    inv_cases hs [freeClosures]
  tbl_live := by
    have := h.tbl_live; have := h.own_mem; have := hd.deferred
    inv_cases hs [freeClosures]
  live_tbl := by
    have := h.live_tbl; have := h.mem_own
    inv_cases hs [freeClosures]
  absent_nil := by
    have := h.absent_nil
    inv_cases hs

theorem reach_ci (sk : Skeleton) (hd : ClosureFreed sk) {s : State} (h : Reach sk s) : CI s := by
  induction h with
  | init => exact ci_init
  | step a _ hs ih => exact ci_step hd ih (.of_step hs)

theorem returned_stable (sk : Skeleton) {s s' : State} (a : Act) (hs : step sk s a = some s')
    (c : Nat) (hc : (s.calls c).pc = .returned) : (s'.calls c).pc = .returned := by
  have hs := Step.of_step hs
  inv_cases hs

end Panrpc.Ep
