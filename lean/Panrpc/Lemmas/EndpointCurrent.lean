/-
  Lemmas/EndpointCurrent.lean — the source facts M2's theorems rest on, checked against the
  skeleton regenerated from /repo on this run.  A change of the broadcaster, of the stub, of
  `setErr` or of the tail of `LinkMessage` that invalidates a fact makes one of these `decide`s fail.
-/
import Panrpc.Lemmas.EndpointFatal
import Panrpc.Lemmas.EndpointClosure
import Panrpc.Lemmas.EndpointRuns
import Panrpc.Lemmas.EndpointDeliv
import Panrpc.Generated.Current

namespace Panrpc.Ep

theorem cur_model_fits : ModelFits Skeleton.current := by constructor <;> decide

theorem cur_hyg : Bc.Hyg Skeleton.current := by constructor <;> decide
theorem cur_nochanclose : Bc.NoChanClose Skeleton.current := by constructor <;> decide
theorem cur_wakes : Bc.Wakes Skeleton.current := by constructor <;> decide
theorem cur_firstonly : FirstOnly Skeleton.current := by constructor <;> decide
theorem cur_storefirst : StoreFirst Skeleton.current := ⟨by decide⟩
theorem cur_closurefreed : ClosureFreed Skeleton.current := by constructor <;> decide
theorem cur_live : Live Skeleton.current :=
  { hyg := cur_hyg, nochan := cur_nochanclose, wakes := cur_wakes, outside := by decide,
    selDone := by decide, selCtx := by decide, recovers := by decide, setsErr := by decide,
    cap := by decide, selRes := by decide, selLink := by decide, wfrees := by decide,
    skipDec := by decide, pubChecksClosed := by decide, invokeOutside := by decide, panicSites := by decide, freeNeverWaits := by decide, storesCreated := by decide }

/-- the source facts the progress theorems rest on, checked against the regenerated skeleton -/
theorem cur_prog : Prog Skeleton.current :=
  { lv := cur_live, order := cur_storefirst, first := cur_firstonly,
    selChan := by decide, selSend := by decide, selEntry := by decide }

/-- the current tree with ONE fact flipped: `CallClosure` keeps the closure table's mutex while the closure
    runs (`m.closuresLock.Lock(); defer m.closuresLock.Unlock()`).  Used by the witness theorems of C05 /
    C12 that show what the fact `clInvokeOutsideLock` protects against. -/
def skLockAcrossClosure : Skeleton := { Skeleton.current with clInvokeOutsideLock := false }

/-- the current tree with ONE fact flipped: `Receive` also refuses a caller context that is done already
    (`if err := ctx.Err(); err != nil { return nil, err }` after the closed check).  Used by the witness
    theorems of C04 / C16 that show what the fact `bcReceiveErrorsOnlyClosed` protects against. -/
def skRefusesDoneCtx : Skeleton := { Skeleton.current with bcReceiveErrorsOnlyClosed := false }

/-- the current tree with ONE fact flipped: what `registerClosure` stores is a wrapper that serialises invocations of
    the closure with a mutex of its own ("callbacks mutate captured locals, the remote may invoke them from several
    goroutines"). Used by the witness theorems of C02 / C11. -/
def skSerialisedClosure : Skeleton := { Skeleton.current with clStoresCreatedClosure := false }

/-- the current tree with ONE fact flipped: the release function returned by `registerClosure` WAITS for running
    invocations of the closure (a `WaitGroup`: "the caller's function is never still executing after the closure has
    been freed").  Used by the witness theorems of C03 / C05 / C16. -/
def skFreeWaits : Skeleton := { Skeleton.current with clFreeNeverWaits := false }

/-- the current tree with ONE fact flipped: the stub panics on an OUTCOME of a call (`if rawReturnValue.cancelled
    && … { panic(rawReturnValue.err) }` in the response arm of its select) and not only on failures of the link.
    Used by the witness theorems of C04 / C16 that show what the fact `panicSitesCanonical` protects against. -/
def skPanicsOnOutcome : Skeleton := { Skeleton.current with panicSitesCanonical := false }

end Panrpc.Ep
