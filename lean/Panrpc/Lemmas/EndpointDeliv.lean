/-
  Lemmas/EndpointDeliv.lean — every `callResponse` in the hands of a waiter, in a `res` channel
  or behind a call's results is justified: one that claims to come from a response frame
  (`fromFrame = some v`) was handed over by a publisher of that very call id to that very
  waiter (M1's delivery log), and only those carry a nil or an application error (C03).
-/
import Panrpc.Lemmas.EndpointLink

namespace Panrpc.Ep

/-- value `v` was handed by a publisher of key `c` to receiver thread `c` -/
def delivered (s : State) (c v : Nat) : Bool :=
  s.bc.deliveries.any (fun d => decide (d.rcv = c ∧ d.val = v ∧ d.pkey = c ∧ d.rkey = c))

def Good (s : State) (c : Nat) (r : Resp) : Prop :=
  (∀ v, r.fromFrame = some v → delivered s c v = true) ∧
  (r.fromFrame = none → r.err = .ctxErr ∨ r.err = .closed) ∧
  (r.fromFrame ≠ none → r.err = .none ∨ r.err = .app)

theorem delivered_mono {sk : Skeleton} {s s' : State} {a : Act} (hs : Step sk s a s') {c v : Nat}
    (h : delivered s c v = true) : delivered s' c v = true := by
  simp only [delivered, List.any_eq_true] at *
  obtain ⟨d, hd, hp⟩ := h
  rcases hs.bc with e | ⟨b, hb⟩
  · exact ⟨d, e ▸ hd, hp⟩
  · exact ⟨d, hb.deliveries_mono hd, hp⟩

theorem Good.step {sk : Skeleton} {s s' : State} {a : Act} (hs : Step sk s a s') {c : Nat} {r : Resp}
    (h : Good s c r) : Good s' c r :=
  ⟨fun v hv => delivered_mono hs (h.1 v hv), h.2⟩

/-- every response in the hands of call `c`'s waiter, in its `res` channel or behind its results meets `P` -/
structure JUc (P : Resp → Prop) (cl : Call) (w : Waiter) (res : List Resp) : Prop where
  w_ok   : ∀ r, w = .have r → P r
  res_ok : ∀ r, r ∈ res → P r
  out_ok : ∀ r, cl.outcome = .ok r → P r

def JU (s : State) : Prop := ∀ c, JUc (Good s c) (s.calls c) (s.waiters c) (s.res c)

theorem ju_init : JU init := fun _ => by constructor <;> simp [init, Call.none]

/-- `Good` is stable, so a step of another call changes nothing; of the steps of call `c` itself only the three
    outcomes of the receive function's select make a new response, the others hand one on. -/
theorem ju_step {sk : Skeleton} {s s' : State} {a : Act} (hl : LK s) (hw : Bc.WF s.bc) (h : JU s)
    (hs : Step sk s a s') : JU s' := by
  intro c
  have h := h c
  have st : ∀ r, Good s c r → Good s' c r := fun _ => Good.step hs
  by_cases ha : actCall a = some c
  · cases hs <;> simp [actCall] at ha <;> subst ha <;> (try cases ‹Bc.Step _ _ _ _›) <;> simp only [upd_same] <;> exact
      { w_ok := by
          first
          | exact h.w_ok
          | (have := fun c => (hl c).key; have := hw.pub_entry; have := hw.rcv_entry
             intros; grind [Good, delivered, Bc.Rcv.binding])
        res_ok := by first | exact h.res_ok | (have := h.res_ok; have := h.w_ok; intros; grind)
        out_ok := by first | exact h.out_ok | (have := h.out_ok; have := h.res_ok; intros; grind) }
  · obtain ⟨e1, e2, e3, -⟩ := hs.call_local ha
    rw [e1, e2, e3]
    exact ⟨fun r hr => st r (h.w_ok r hr), fun r hr => st r (h.res_ok r hr), fun r hr => st r (h.out_ok r hr)⟩

theorem reach_ju (sk : Skeleton) {s : State} (h : Reach sk s) : JU s := by
  induction h with
  | init => exact ju_init
  | step a hr hs ih => exact ju_step (reach_lk sk hr) (reach_wf sk hr) ih (.of_step hs)

end Panrpc.Ep
