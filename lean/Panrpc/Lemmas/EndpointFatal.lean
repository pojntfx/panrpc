/-
  Lemmas/EndpointFatal.lean — invariants of the fatal-error slot, the ghost `fatalLog`, the
  Link thread and the order of the two halves of `setErr` (C16, C03).
-/
import Panrpc.Lemmas.Endpoint

namespace Panrpc.Ep

/-! ### the store critical section, field by field (so that proofs never see the list append) -/

def snoc (l : List Nat) (e : Nat) : List Nat := l ++ [e]

theorem snoc_ne_nil (l : List Nat) (e : Nat) : snoc l e ≠ [] := by simp [snoc]
theorem head?_snoc (l : List Nat) (e : Nat) : (snoc l e).head? = firstOr l.head? e := by
  cases l <;> simp [snoc, firstOr]
theorem firstOr_some (x e : Nat) : firstOr (some x) e = some x := rfl
theorem firstOr_none (e : Nat) : firstOr none e = some e := rfl
theorem firstOr_of_ne_none (o : Option Nat) (e : Nat) (h : o ≠ none) : firstOr o e = o := by
  cases o <;> simp_all [firstOr]
theorem firstOr_ne_none (o : Option Nat) (e : Nat) : firstOr o e ≠ none := by cases o <;> simp [firstOr]
theorem firstOr_cases (o : Option Nat) (e : Nat) : firstOr o e = o ∨ firstOr o e = some e := by
  cases o <;> simp [firstOr]
theorem mem_snoc {l : List Nat} {e x : Nat} : x ∈ snoc l e ↔ x ∈ l ∨ x = e := by simp [snoc]

@[simp] theorem store_bc (sk : Skeleton) (s : State) (e : Nat) : (store sk s e).bc = s.bc := rfl
@[simp] theorem store_calls (sk : Skeleton) (s : State) (e : Nat) : (store sk s e).calls = s.calls := rfl
@[simp] theorem store_waiters (sk : Skeleton) (s : State) (e : Nat) : (store sk s e).waiters = s.waiters := rfl
@[simp] theorem store_res (sk : Skeleton) (s : State) (e : Nat) : (store sk s e).res = s.res := rfl
@[simp] theorem store_pubErr (sk : Skeleton) (s : State) (e : Nat) : (store sk s e).pubErr = s.pubErr := rfl
@[simp] theorem store_closures (sk : Skeleton) (s : State) (e : Nat) : (store sk s e).closures = s.closures := rfl
@[simp] theorem store_nextClosure (sk : Skeleton) (s : State) (e : Nat) : (store sk s e).nextClosure = s.nextClosure := rfl
@[simp] theorem store_owner (sk : Skeleton) (s : State) (e : Nat) : (store sk s e).owner = s.owner := rfl
@[simp] theorem store_invokes (sk : Skeleton) (s : State) (e : Nat) : (store sk s e).invokes = s.invokes := rfl
@[simp] theorem store_linkCtxDone (sk : Skeleton) (s : State) (e : Nat) : (store sk s e).linkCtxDone = s.linkCtxDone := rfl
@[simp] theorem store_watcherFired (sk : Skeleton) (s : State) (e : Nat) : (store sk s e).watcherFired = s.watcherFired := rfl
@[simp] theorem store_setters (sk : Skeleton) (s : State) (e : Nat) : (store sk s e).setters = s.setters := rfl
@[simp] theorem store_crashed (sk : Skeleton) (s : State) (e : Nat) : (store sk s e).crashed = s.crashed := rfl
@[simp] theorem store_fatalLog (sk : Skeleton) (s : State) (e : Nat) : (store sk s e).fatalLog = snoc s.fatalLog e := rfl
@[simp] theorem store_slot (sk : Skeleton) (s : State) (e : Nat) :
    (store sk s e).slot = if sk.seFirstOnly = true then firstOr s.slot e else some e := rfl
@[simp] theorem store_link (sk : Skeleton) (s : State) (e : Nat) :
    (store sk s e).link = if s.link = .waiting ∧ sk.seBroadcasts = true then .woken else s.link := rfl

/-- Source facts: the slot keeps the first error; the store broadcasts; Link waits on the cond. -/
structure FirstOnly (sk : Skeleton) : Prop where
  first      : sk.seFirstOnly = true
  broadcasts : sk.seBroadcasts = true
  waits      : sk.linkWaitsOnCond = true

structure FI (s : State) : Prop where
  slot_head   : s.slot = s.fatalLog.head?
  waiting_nil : s.link = .waiting → s.fatalLog = []
  woken_set   : s.link = .woken → s.fatalLog ≠ []
  read_ok     : ∀ e, s.link = .read e → e = s.slot ∧ e ≠ none
  ret_ok      : ∀ e, s.link = .returned e → e = s.slot ∧ e ≠ none

theorem fi_init : FI init := by constructor <;> simp [init]

theorem FI.slot_none_iff {s : State} (h : FI s) : s.slot = none ↔ s.fatalLog = [] := by
  rw [h.slot_head, List.head?_eq_none_iff]

theorem fi_step {sk : Skeleton} {s s' : State} {a : Act} (hf : FirstOnly sk) (h : FI s) (hs : Step sk s a s') :
    FI s' where
  slot_head := by
    have := h.slot_head; have := hf.first
    inv_cases hs [store_slot, store_fatalLog, head?_snoc]
  waiting_nil := by
    have := h.waiting_nil; have := h.slot_head; have := hf.broadcasts
    inv_cases hs [store_link, List.head?_eq_none_iff]
  woken_set := by
    have := h.woken_set
    inv_cases hs [store_fatalLog, snoc_ne_nil]
  read_ok := by
    have := h.read_ok; have := h.woken_set; have := h.slot_head; have := hf.first; have := hf.waits
    inv_cases hs [store_link, store_slot, firstOr_of_ne_none, List.head?_eq_none_iff]
  ret_ok := by
    have := h.ret_ok; have := h.read_ok; have := hf.first
    inv_cases hs [store_link, store_slot, firstOr_of_ne_none]

theorem reach_fi (sk : Skeleton) (hf : FirstOnly sk) {s : State} (h : Reach sk s) : FI s := by
  induction h with
  | init => exact fi_init
  | step a _ hs ih => exact fi_step hf ih (.of_step hs)

/-- Source fact: `setErr` stores the slot before it closes the pending-call table. -/
structure StoreFirst (sk : Skeleton) : Prop where
  order : sk.seOrder = .storeThenClose

/-- "table closed ⇒ an error has been stored", and `ErrClosed` is never the first stored error -/
structure PI (s : State) : Prop where
  stored_set : ∀ t e, s.setters t = .stored e → s.fatalLog ≠ []
  closed_set : s.bc.closed = true → s.fatalLog ≠ []
  pan_closed : ∀ c, (s.calls c).pc = .panicking eClosed → s.fatalLog ≠ []
  ent_closed : ∀ t, s.setters t = .entered eClosed → s.fatalLog ≠ []
  head_ne    : s.fatalLog.head? ≠ some eClosed
  no_closedFirst : ∀ t e, s.setters t ≠ .closedFirst e   -- `setErr` is never found between its two halves in the wrong order

theorem pi_init : PI init := by constructor <;> simp [init, Bc.init, Call.none]

theorem pi_step {sk : Skeleton} {s s' : State} {a : Act} (ho : StoreFirst sk) (h : PI s) (hs : Step sk s a s') :
    PI s' where
  stored_set := by
    have := h.stored_set
    inv_cases hs [store_fatalLog, snoc_ne_nil]
  closed_set := by
    have := h.closed_set; have := h.stored_set; have := ho.order
    inv_cases hs [store_fatalLog, snoc_ne_nil] with ‹Bc.Step _ _ _ _›
  pan_closed := by
    have := h.pan_closed; have := h.closed_set
    inv_cases hs [store_fatalLog, snoc_ne_nil, eClosed, eLinkCtx, eMarshal, eDecode, eCallCtx, eExt] with ‹Bc.Step _ _ _ _›
  ent_closed := by
    have := h.ent_closed; have := h.pan_closed
    inv_cases hs [store_fatalLog, snoc_ne_nil, eClosed, eLinkCtx, eExt]
  head_ne := by
    have := h.head_ne; have := h.ent_closed; have := ho.order
    inv_cases hs [store_fatalLog, head?_snoc, firstOr_of_ne_none, firstOr_none, List.head?_eq_none_iff]
  no_closedFirst := by
    have := h.no_closedFirst; have := ho.order
    inv_cases hs

theorem reach_pi (sk : Skeleton) (ho : StoreFirst sk) {s : State} (h : Reach sk s) : PI s := by
  induction h with
  | init => exact pi_init
  | step a _ hs ih => exact pi_step ho ih (.of_step hs)

/-- What the places an error value comes from must satisfy, for it to hold of every error value in flight.  The stub
    turns EVERY error of `Receive` into `panic(err)` → `recover` → `setErr(err)`, and a stub with non-canonical panic
    sites panics on a call's own context error: the two source facts say that neither happens. -/
structure Sources (sk : Skeleton) (Q : Nat → Prop) : Prop where
  marshal : Q eMarshal
  closed  : Q eClosed
  linkCtx : Q eLinkCtx
  decode  : Q eDecode
  ext     : ∀ n, Q (eExt n)
  callCtx : Q eCallCtx ∨ (sk.bcReceiveErrorsOnlyClosed = true ∧ sk.panicSitesCanonical = true)

/-- Error values are copied — panic site → recover → `setErr` → log and slot → `Link` — and never made up on the way:
    what holds at the sources holds of every value a stub panics with or returns, a `setErr` carries, the log or the
    slot holds, and `Link` reads or returns.  With `Q := (· ≠ eCallCtx)`: a call's own context error never ends the link. -/
structure Flow (Q : Nat → Prop) (s : State) : Prop where
  pan  : ∀ c e, (s.calls c).pc = .panicking e → Q e
  out  : ∀ c e, (s.calls c).outcome = .failed e → Q e
  set  : ∀ t e, (s.setters t = .entered e ∨ s.setters t = .stored e ∨ s.setters t = .closedFirst e) → Q e
  log  : ∀ e, e ∈ s.fatalLog → Q e
  slot : ∀ e, s.slot = some e → Q e
  link : ∀ e, (s.link = .read (some e) ∨ s.link = .returned (some e)) → Q e

theorem flow_init (Q : Nat → Prop) : Flow Q init := by constructor <;> simp [init, Call.none]

theorem flow_step {sk : Skeleton} {Q : Nat → Prop} {s s' : State} {a : Act} (hq : Sources sk Q) (h : Flow Q s)
    (hs : Step sk s a s') : Flow Q s' where
  pan := by
    have := h.pan; have := hq.marshal; have := hq.closed; have := hq.linkCtx; have := hq.decode; have := hq.ext
    have := hq.callCtx
    inv_cases hs with ‹Bc.Step _ _ _ _›
  out := by
    have := h.out; have := h.pan
    inv_cases hs
  set := by
    have := h.set; have := h.pan; have := hq.linkCtx; have := hq.ext
    inv_cases hs
  log := by
    have := h.log; have := h.set
    inv_cases hs [store_fatalLog, mem_snoc]
  slot := by
    have := h.slot; have := h.set
    inv_cases hs [store_slot, firstOr_cases]
  link := by
    have := h.link; have := h.slot
    inv_cases hs [store_link]

theorem reach_flow (sk : Skeleton) {Q : Nat → Prop} (hq : Sources sk Q) {s : State} (h : Reach sk s) : Flow Q s := by
  induction h with
  | init => exact flow_init Q
  | step a _ hs ih => exact flow_step hq ih (.of_step hs)

/-- own steps of the Link thread still to go (an upper bound) -/
def linkMeasure : LinkPc → Nat
  | .running => 3
  | .waiting => 2
  | .woken => 2
  | .read _ => 1
  | .returned _ => 0

def isLinkAct : Act → Bool
  | .linkCheck | .linkWake | .linkReturn => true
  | _ => false

/-- every own step of the Link thread brings it closer to its return, and no step of any other
    thread takes it further away (general: any skeleton). -/
theorem link_measure_step (sk : Skeleton) {s s' : State} (a : Act) (hs : step sk s a = some s') :
    (isLinkAct a = true → linkMeasure s'.link < linkMeasure s.link) ∧
    (isLinkAct a = false → linkMeasure s'.link ≤ linkMeasure s.link) := by
  cases Step.of_step hs <;> simp only [isLinkAct, store_link] <;> grind [linkMeasure]

/-- from every state with a stored error the Link thread returns the slot by its own steps alone -/
theorem link_can_return (sk : Skeleton) (s : State) (hc : s.crashed = false)
    (hi : FI s) (hl : s.fatalLog ≠ []) :
    ∃ acts, acts.length ≤ 2 ∧ acts.all isLinkAct = true ∧
      (run sk s acts).map (·.link) = some (.returned s.slot) := by
  have hslot : s.slot ≠ none := mt hi.slot_none_iff.mp hl
  cases hk : s.link with
  | running => exact ⟨[.linkCheck, .linkReturn], by simp, by simp [isLinkAct], by simp [run, runFrom, step, hc, hk, hslot]⟩
  | waiting => exact absurd (hi.waiting_nil hk) hl
  | woken => exact ⟨[.linkWake, .linkReturn], by simp, by simp [isLinkAct], by simp [run, runFrom, step, hc, hk]⟩
  | read e =>
    have := (hi.read_ok e hk).1
    exact ⟨[.linkReturn], by simp, by simp [isLinkAct], by simp [run, runFrom, step, hc, hk, this]⟩
  | returned e =>
    have := (hi.ret_ok e hk).1
    exact ⟨[], by simp, by simp, by simp [run, runFrom, hk, this]⟩

end Panrpc.Ep
