/-
  Lemmas/EndpointLink.lean — the invariants that tie the threads of a call together: stub, waiter and `res`
  channel with the embedded M1 receiver thread of the same index (LK); a call past the spawn of its waiter has a
  waiter on its way or finds the response in `res` (RI, C03) and a returned call has an outcome (OI); every live entry
  of the pending-call table belongs to a call whose waiter has not exited, to a stub right before its `go`
  statement if there is no waiter yet (TI, C15); one generation per call id (UG, C05).
-/
import Panrpc.Lemmas.Endpoint

namespace Panrpc.Ep

/-- where an M1 receiver thread stands -/
inductive Phase where
  | absent | refused | have | waiting | got
  deriving DecidableEq, Repr

def phase : Bc.Rcv → Phase
  | .absent => .absent
  | .refused | .refusedCtx => .refused
  | .have _ _ _ => .have
  | .waiting _ _ _ => .waiting
  | .gotVal _ _ _ _ | .gotCtx _ _ _ | .gotClosed _ _ _ => .got

/-- the caller context an M1 receiver thread passed to `Receive` -/
def rcvCtx : Bc.Rcv → Option Nat
  | .have _ _ x | .waiting _ _ x | .gotVal _ _ x _ | .gotCtx _ _ x | .gotClosed _ _ x => some x
  | _ => none

/-- what the stub, the waiter, the `res` channel and the M1 receiver thread of call `c` have to do with each other -/
structure LKc (c : Nat) (cl : Call) (w : Waiter) (res : List Resp) (rc : Bc.Rcv) : Prop where
  key      : ∀ k g, rc.binding = some (k, g) → k = c
  ctx      : ∀ x, rcvCtx rc = some x → x = cl.ctx
  early    : (cl.pc = .absent ∨ cl.pc = .marshalled) → rc = .absent ∧ w = .absent
  reg      : cl.pc = .registered → phase rc = .have ∧ w = .absent
  w_absent : w = .absent → res = []
  w_start  : w = .start → phase rc = .have ∧ res = []
  w_recv   : w = .recv → phase rc = .waiting ∧ res = []
  w_have   : ∀ r, w = .have r → phase rc = .got ∧ res = []

def LK (s : State) : Prop := ∀ c, LKc c (s.calls c) (s.waiters c) (s.res c) (s.bc.rcvs c)

theorem lk_init : LK init := fun c => by
  constructor <;> simp [init, Bc.init, Call.none, Bc.Rcv.binding, rcvCtx]

theorem lk_step {sk : Skeleton} {s s' : State} {a : Act} (h : LK s) (hs : Step sk s a s') : LK s' :=
  hs.call_inv (P := LKc) (h := h) fun c ha h => by
    -- per own step of call `c`: a clause whose components the step leaves alone is that clause of `h`
    cases hs <;> simp [actCall] at ha <;> subst ha <;> (try cases ‹Bc.Step _ _ _ _›) <;> simp only [upd_same] <;> exact
      { key      := by first | exact h.key | (have := h.key; intros; grind [Bc.Rcv.binding])
        ctx      := by first | exact h.ctx | (have := h.ctx; have := h.early; intros; grind [rcvCtx])
        early    := by first | exact h.early | (have := h.early; intros; grind)
        reg      := by first | exact h.reg | (have := h.reg; have := h.early; intros; grind [phase])
        w_absent := by first | exact h.w_absent | (have := h.w_absent; intros; grind)
        w_start  := by first | exact h.w_start | (have := h.w_start; have := h.w_absent; have := h.reg; intros; grind [phase])
        w_recv   := by first | exact h.w_recv | (have := h.w_recv; have := h.w_start; intros; grind [phase])
        w_have   := by first | exact h.w_have | (have := h.w_have; have := h.w_recv; intros; grind [phase]) }

theorem reach_lk (sk : Skeleton) {s : State} (h : Reach sk s) : LK s := by
  induction h with
  | init => exact lk_init
  | step a _ hs ih => exact lk_step ih (.of_step hs)

/-- a call past the spawn of its waiter has a waiter on its way, or finds the response in `res` -/
structure RIc (cl : Call) (w : Waiter) (res : List Resp) : Prop where
  has_waiter : (cl.pc = .spawned ∨ cl.pc = .written) → w ≠ .absent
  res_ready  : (cl.pc = .spawned ∨ cl.pc = .written) → (w = .sent ∨ w = .exited) → res ≠ []

def RI (s : State) : Prop := ∀ c, RIc (s.calls c) (s.waiters c) (s.res c)

theorem ri_init : RI init := fun _ => by constructor <;> simp [init, Call.none]

theorem snoc_resp_ne_nil (l : List Resp) (r : Resp) : l ++ [r] ≠ [] := by simp

theorem ri_step {sk : Skeleton} {s s' : State} {a : Act} (h : RI s) (hs : Step sk s a s') : RI s' :=
  hs.call_inv (P := fun _ cl w res _ => RIc cl w res) (h := h) fun c ha h => by
    cases hs <;> simp [actCall] at ha <;> subst ha <;> simp only [upd_same] <;> exact
      { has_waiter := by first | exact h.has_waiter | (have := h.has_waiter; intros; grind)
        res_ready  := by first | exact h.res_ready | (have := h.res_ready; intros; grind [snoc_resp_ne_nil]) }

theorem reach_ri (sk : Skeleton) {s : State} (h : Reach sk s) : RI s := by
  induction h with
  | init => exact ri_init
  | step a _ hs ih => exact ri_step ih (.of_step hs)

/-- a call that has decoded or returned has an outcome -/
structure OIc (cl : Call) : Prop where
  decoded_ok : cl.pc = .decoded → ∃ r, cl.outcome = .ok r
  returned_set : cl.pc = .returned → (∃ r, cl.outcome = .ok r) ∨ (∃ e, cl.outcome = .failed e)

def OI (s : State) : Prop := ∀ c, OIc (s.calls c)

theorem oi_init : OI init := fun _ => by constructor <;> simp [init, Call.none]

theorem oi_step {sk : Skeleton} {s s' : State} {a : Act} (h : OI s) (hs : Step sk s a s') : OI s' :=
  hs.call_inv (P := fun _ cl _ _ _ => OIc cl) (h := h) fun c ha h => by
    cases hs <;> simp [actCall] at ha <;> subst ha <;> simp only [upd_same] <;> exact
      { decoded_ok   := by first | exact h.decoded_ok | (intros; grind)
        returned_set := by first | exact h.returned_set | (have := h.decoded_ok; intros; grind) }

theorem reach_oi (sk : Skeleton) {s : State} (h : Reach sk s) : OI s := by
  induction h with
  | init => exact oi_init
  | step a _ hs ih => exact oi_step ih (.of_step hs)

/-- A live entry of the table belongs to a call whose waiter has not exited — to a stub right before its `go`
    statement if there is no waiter yet. -/
structure TIc (cl : Call) (w : Waiter) (tbl : Option Nat) : Prop where
  tbl_wait   : ∀ g, tbl = some g → w ≠ .exited ∧ cl.pc ≠ .absent ∧ cl.pc ≠ .marshalled
  absent_reg : ∀ g, tbl = some g → w = .absent → cl.pc = .registered

def TI (s : State) : Prop := ∀ k, TIc (s.calls k) (s.waiters k) (s.bc.table k)

theorem ti_init : TI init := fun _ => by constructor <;> simp [init, Bc.init]

/-- Source facts used: the waiter frees its entry when it exits (`hf`), and `Free` deletes it (`Hyg`). -/
theorem ti_step {sk : Skeleton} {s s' : State} {a : Act} (hf : sk.stubWaiterFreesOnExit = true) (hy : Bc.Hyg sk)
    (hl : LK s) (hw : Bc.WF s.bc) (hn : Bc.NC s.bc) (h : TI s) (hs : Step sk s a s') : TI s' := by
  intro k
  by_cases ha : actCall a = some k
  · have h := h k
    cases hs <;> simp [actCall] at ha <;> subst ha <;> (try cases ‹Bc.Step _ _ _ _›) <;> simp only [upd_same] <;> exact
      { tbl_wait := by
          first
          | exact h.tbl_wait
          | (have := h.tbl_wait; have := hy.freeDeletes; have := fun c => (hl c).early
             have := hw.table_key; have := hn.nochan; have := hn.live; intros; grind)
        absent_reg := by first | exact h.absent_reg | (have := h.absent_reg; intros; grind) }
  · obtain ⟨e1, e2, -, -, e | ⟨-, e⟩⟩ := hs.call_local ha <;> rw [e1, e2, e]
    · exact h k
    · exact ⟨nofun, nofun⟩   -- `Close` removed the entry

theorem reach_ti (sk : Skeleton) (hf : sk.stubWaiterFreesOnExit = true) (hy : Bc.Hyg sk) (hnc : Bc.NoChanClose sk)
    {s : State} (h : Reach sk s) : TI s := by
  induction h with
  | init => exact ti_init
  | step a hr hs ih =>
    exact ti_step hf hy (reach_lk sk hr) (reach_wf sk hr) (reach_nc sk hy hnc hr) ih (.of_step hs)

structure UG (s : State) : Prop where
  past   : ∀ g e, s.bc.entries g = some e → (s.calls e.key).pc ≠ .absent ∧ (s.calls e.key).pc ≠ .marshalled
  unique : ∀ g g' e e', s.bc.entries g = some e → s.bc.entries g' = some e' → e.key = e'.key → g = g'

theorem ug_init : UG init := by constructor <;> simp [init, Bc.init]

theorem ug_step {sk : Skeleton} {s s' : State} {a : Act} (h : UG s) (hs : Step sk s a s') : UG s' where
  past := by
    have := h.past
    inv_cases hs with ‹Bc.Step _ _ _ _›
  unique := by
    have := h.unique; have := h.past
    inv_cases hs with ‹Bc.Step _ _ _ _›

theorem reach_ug (sk : Skeleton) {s : State} (h : Reach sk s) : UG s := by
  induction h with
  | init => exact ug_init
  | step a _ hs ih => exact ug_step ih (.of_step hs)

end Panrpc.Ep
