/-
  Lemmas/EndpointLive.lean — enabledness: in every reachable state the steps that let a waiter,
  a call thread and the Link thread make progress by themselves are enabled, with the stated
  effect (C03, C04, C15); which cases of the receive function's select are ready, exactly (C04, C05).
  General in the skeleton: the source facts used are collected in `Live` and `Prog`.  An enabledness
  fact is a constructor of `Step` applied to its guards (`Step.to_step`).
-/
import Panrpc.Lemmas.EndpointLink
import Panrpc.Lemmas.EndpointFatal

namespace Panrpc.Ep

/-- Source facts the progress lemmas rest on. -/
structure Live (sk : Skeleton) : Prop where
  hyg      : Bc.Hyg sk
  nochan   : Bc.NoChanClose sk
  wakes    : Bc.Wakes sk
  outside  : sk.bcPublishSelectOutsideLock = true
  selDone  : sk.bcRecvSelectsDone = true          -- the receive function listens to the closed signal
  selCtx   : sk.bcRecvSelectsCallerCtx = true     -- … and to the caller's context
  recovers : sk.stubRecovers = true
  setsErr  : sk.stubRecoverCallsSetErr = true
  cap      : sk.stubResChanCap ≠ 0                -- `res` is buffered
  selRes   : sk.stubSelectsRes = true
  selLink  : sk.stubSelectsLinkCtx = true
  wfrees   : sk.stubWaiterFreesOnExit = true
  skipDec  : sk.stubTwoOutSkipsDecodeWhenCancelled = true
  pubChecksClosed : sk.bcPublishChecksClosed = true
  invokeOutside : sk.clInvokeOutsideLock = true   -- CallClosure unlocks closuresLock before it calls the closure
  panicSites : sk.panicSitesCanonical = true      -- the stub panics only on failures of the link, never on an outcome of the call
  freeNeverWaits : sk.clFreeNeverWaits = true     -- the deferred release of a call's closures waits for nobody
  storesCreated : sk.clStoresCreatedClosure = true -- the table holds the closure's wrapper itself: invocations are not serialised

/-- Source facts the progress theorems rest on, beyond `Live`. -/
structure Prog (sk : Skeleton) : Prop where
  lv        : Live sk
  order     : StoreFirst sk
  first     : FirstOnly sk
  selChan   : sk.bcRecvSelectsChan = true          -- receive function: `case v := <-c.channel`
  selSend   : sk.bcPublishSelectsSend = true       -- Publish: `case c.channel <- v`
  selEntry  : sk.bcPublishSelectsEntryCtx = true   -- Publish: `case <-c.ctx.Done()`

theorem run_cons (sk : Skeleton) {s s1 s' : State} {a : Act} {as : List Act}
    (h1 : step sk s a = some s1) (h2 : run sk s1 as = some s') : run sk s (a :: as) = some s' := by
  rw [run, runFrom_cons, h1]; exact h2

theorem run_nil (sk : Skeleton) (s : State) : run sk s [] = some s := rfl

theorem run_append (sk : Skeleton) {s s1 s' : State} {as bs : List Act}
    (h1 : run sk s as = some s1) (h2 : run sk s1 bs = some s') : run sk s (as ++ bs) = some s' := by
  rw [run, runFrom_append, ← run, h1]; exact h2

theorem closed_mono (sk : Skeleton) {s s' : State} (a : Act) (hs : step sk s a = some s')
    (hc : s.bc.closed = true) : s'.bc.closed = true := by
  rcases (Step.of_step hs).bc with e | ⟨b, hb⟩
  · rwa [e]
  · exact hb.closed_mono hc

theorem callReceive_isSome (sk : Skeleton) (t : State) (c : Nat) :
    (step sk t (.callReceive c)).isSome =
      decide ((t.crashed = false ∧ (t.calls c).pc = .marshalled) ∧
              (t.bc.crashed = false ∧ t.bc.lockHolder = none ∧ t.bc.rcvs c = .absent)) := by
  -- M2 wraps every outcome of M1's `receive` in `some`: enabled iff M2's own guard holds and `Bc.receive_isSome`
  have hb := Bc.receive_isSome sk t.bc c c (t.calls c).ctx
  by_cases h1 : t.crashed = false ∧ (t.calls c).pc = .marshalled
  · cases hs : Bc.step sk t.bc (.receive c c (t.calls c).ctx) with
    | none => simp only [step, h1, hs, and_self, if_true]; simp [hs] at hb; simpa using hb
    | some b' =>
      simp only [step, h1, hs, and_self, if_true]; simp [hs] at hb
      (repeat' split) <;> simp [hb]
  · simp [step, h1]

section
variable (sk : Skeleton) (hv : Live sk) {s : State} (hr : Reach sk s)
include hv hr

theorem alive : s.crashed = false ∧ s.bc.crashed = false ∧ s.bc.lockHolder = none :=
  ⟨reach_no_crash sk hv.recovers hv.hyg hv.nochan hr, (reach_nc sk hv.hyg hv.nochan hr).nocrash,
   reach_lock_free sk hv.outside hr⟩

/-- the closure table's mutex is free: registering / releasing closures never waits for a closure body -/
theorem cl_free : s.clLock = none := reach_cl_free sk hv.invokeOutside hr

theorem waiterRecvCall_enabled (c : Nat) (hw : s.waiters c = .start) :
    ∃ s1, step sk s (.waiterRecvCall c) = some s1 ∧ s1.waiters c = .recv ∧
      s1.calls = s.calls ∧ s1.res = s.res ∧ s1.bc.table = s.bc.table := by
  obtain ⟨hc, hbc, _⟩ := alive sk hv hr
  have hp := ((reach_lk sk hr c).w_start hw).1
  cases hrc : s.bc.rcvs c <;> simp [hrc, phase] at hp
  exact ⟨_, (Step.waiterRecvCall hc hw (.rcvCall hbc (.inl hrc))).to_step, upd_same .., rfl, rfl, rfl⟩

omit hv in
theorem recv_shape (c : Nat) (hw : s.waiters c = .recv) :
    ∃ g e, s.bc.rcvs c = .waiting c g (s.calls c).ctx ∧ s.bc.entries g = some e ∧ e.key = c := by
  have hl := reach_lk sk hr
  have hp := ((hl c).w_recv hw).1
  cases hrc : s.bc.rcvs c <;> simp [hrc, phase] at hp
  rename_i k g x
  obtain rfl : k = c := (hl c).key k g (by simp [hrc, Bc.Rcv.binding])
  obtain rfl : x = (s.calls k).ctx := (hl k).ctx x (by simp [hrc, rcvCtx])
  obtain ⟨e, hent, he⟩ := (reach_wf sk hr).rcv_waiting hrc
  exact ⟨g, e, rfl, hent, he⟩

/-- a waiter inside the receive function whose call id has no entry in the table (freed, or the table was
    closed) is woken: the closed-signal case is enabled and yields `ErrClosed` -/
theorem waiterGetsDone_enabled (c : Nat) (hw : s.waiters c = .recv) (hgone : s.bc.table c = none) :
    ∃ s1, step sk s (.waiterGetsDone c) = some s1 ∧
      s1.waiters c = .have { fromFrame := none, err := .closed } ∧
      s1.calls = s.calls ∧ s1.res = s.res := by
  obtain ⟨hc, hbc, _⟩ := alive sk hv hr
  obtain ⟨g, e, hrc, hent, hk⟩ := recv_shape sk hr c hw
  have hd := (Bc.done_iff_removed (reach_nc sk hv.hyg hv.nochan hr) (reach_wk sk hv.hyg hv.wakes hr) hent).mpr
    (by simp [hk, hgone])
  exact ⟨_, (Step.waiterGetsDone hc hw (.rcvDone hbc hrc hent hd hv.selDone)).to_step, upd_same .., rfl, rfl⟩

theorem waiterGetsCtx_enabled (c : Nat) (hw : s.waiters c = .recv)
    (hx : s.bc.ctxs (s.calls c).ctx = true) :
    ∃ s1, step sk s (.waiterGetsCtx c) = some s1 ∧
      s1.waiters c = .have { fromFrame := none, err := .ctxErr } ∧
      s1.calls = s.calls ∧ s1.res = s.res ∧ s1.bc.table = s.bc.table := by
  obtain ⟨hc, hbc, _⟩ := alive sk hv hr
  obtain ⟨g, e, hrc, -⟩ := recv_shape sk hr c hw
  exact ⟨_, (Step.waiterGetsCtx hc hw (.rcvCtx hbc hrc hx hv.selCtx)).to_step, upd_same .., rfl, rfl, rfl⟩

/-- a waiter that holds a response can always hand it over: `res` is buffered and still empty,
    whether or not the call thread still listens -/
theorem waiterSend_enabled (c : Nat) (r : Resp) (hw : s.waiters c = .have r) :
    ∃ s1, step sk s (.waiterSend c) = some s1 ∧ s1.waiters c = .sent ∧
      s1.calls = s.calls ∧ s1.res c = [r] ∧ s1.bc = s.bc := by
  have hres := ((reach_lk sk hr c).w_have r hw).2
  refine ⟨_, (Step.waiterSend (alive sk hv hr).1 hw ?_).to_step, upd_same .., rfl, by simp [hres], rfl⟩
  simp [hv.cap, hres, Nat.pos_of_ne_zero hv.cap]

/-- …and then runs its deferred `Free`, which removes the call's entry from the table -/
theorem waiterFree_enabled (c : Nat) (hw : s.waiters c = .sent) :
    ∃ s1, step sk s (.waiterFree c) = some s1 ∧ s1.waiters c = .exited ∧
      s1.calls = s.calls ∧ s1.res = s.res ∧ s1.bc.table c = none ∧
      (∀ k, k ≠ c → s1.bc.table k = s.bc.table k) := by
  obtain ⟨hc, hbc, hlk⟩ := alive sk hv hr
  have hnc := reach_nc sk hv.hyg hv.nochan hr
  cases ht : s.bc.table c with
  | none => exact ⟨_, (Step.waiterFree hc hw hv.wfrees (.freeNone hbc hlk (.inl ht))).to_step, upd_same .., rfl, rfl, ht, fun _ _ => rfl⟩
  | some g =>
    obtain ⟨e, hent, -⟩ := Option.map_eq_some_iff.mp ((reach_wf sk hr).table_key c g ht)
    refine ⟨_, (Step.waiterFree hc hw hv.wfrees (.free hbc hlk ht hent ?_)).to_step, upd_same .., rfl, rfl, ?_, fun k hk => ?_⟩
    · simp [hnc.nochan g e hent, hnc.live c g e ht hent]
    · simp [hv.hyg.freeDeletes]
    · simp [hv.hyg.freeDeletes, upd, hk]

theorem callTakeRes_enabled (c : Nat) (fail : Bool) (r : Resp) (rest : List Resp)
    (hp : (s.calls c).pc = .written) (hres : s.res c = r :: rest)
    (hdec : decodes sk (s.calls c).numOut r = false ∨ fail = false) :
    step sk s (.callTakeRes c fail) = some { s with
      res := upd s.res c rest, calls := upd s.calls c { s.calls c with pc := .decoded, outcome := .ok r } } :=
  (Step.callTakeRes (alive sk hv hr).1 hp hv.selRes hres (by simp [hv.panicSites])
    (by rcases hdec with h | h <;> simp [h])).to_step

theorem callLinkCtx_enabled (c : Nat) (hp : (s.calls c).pc = .written) (hl : s.linkCtxDone = true) :
    step sk s (.callLinkCtx c) = some { s with calls := upd s.calls c { s.calls c with pc := .panicking eLinkCtx } } :=
  (Step.callLinkCtx (alive sk hv hr).1 hp hl hv.selLink (fun h => absurd h hv.cap)).to_step

omit hr in
theorem canRelease_of (h : s.clLock = none) (c : Nat) : canRelease sk s c :=
  fun _ => ⟨h, .inl hv.freeNeverWaits⟩

theorem callReturnOk_enabled (c : Nat) (hp : (s.calls c).pc = .decoded) :
    step sk s (.callReturnOk c) = some { s with
      closures := freeClosures sk s c,
      calls := upd s.calls c { s.calls c with pc := .returned } } :=
  (Step.callReturnOk (alive sk hv hr).1 hp (canRelease_of sk hv (cl_free sk hv hr) c)).to_step

/-- the panic path always completes: the stub recovers, reports the error, returns `(zero, e)` -/
theorem callRecover_enabled (c e : Nat) (hp : (s.calls c).pc = .panicking e) :
    step sk s (.callRecover c e) = some { s with
      closures := freeClosures sk s c,
      calls := upd s.calls c { s.calls c with pc := .returned, outcome := .failed e },
      setters := upd s.setters c (.entered e) } := by
  have := (Step.callRecover (alive sk hv hr).1 hp (canRelease_of sk hv (cl_free sk hv hr) c) hv.recovers).to_step
  simpa [hv.setsErr] using this

/-- entering a stub never waits — in particular `registerClosure` does not wait for a closure body
    that is running (whatever `s.running` is) -/
theorem callStart_enabled (c x numOut n : Nat) (hp : (s.calls c).pc = .absent) (hst : s.setters c = .absent)
    (hn : numOut = 1 ∨ numOut = 2) : (step sk s (.callStart c x numOut n)).isSome = true := by
  rw [(Step.callStart (alive sk hv hr).1 hp hst hn fun _ => cl_free sk hv hr).to_step]; rfl

/-- `CallClosure`'s look-up never waits for the body of another invocation -/
theorem closureInvoke_enabled (q id : Nat) : (step sk s (.closureInvoke q id)).isSome = true := by
  rw [(Step.closureInvoke (alive sk hv hr).1 (cl_free sk hv hr) (.inl hv.storesCreated)).to_step]; rfl

theorem closureInvoke_logs (q id : Nat) :
    (step sk s (.closureInvoke q id)).map (·.invokes.head?) =
      some (some { thread := q, id := id, hit := s.closures id }) := by
  rw [(Step.closureInvoke (alive sk hv hr).1 (cl_free sk hv hr) (.inl hv.storesCreated)).to_step]; rfl

/-- on a closed table `Receive` is refused: the stub panics with `ErrClosed` -/
theorem callReceive_refused (c : Nat) (hp : (s.calls c).pc = .marshalled) (hcl : s.bc.closed = true) :
    step sk s (.callReceive c) = some { s with
      bc := { s.bc with rcvs := upd s.bc.rcvs c .refused }, crashed := s.bc.crashed,
      calls := upd s.calls c { s.calls c with pc := .panicking eClosed } } := by
  obtain ⟨hc, hbc, hlk⟩ := alive sk hv hr
  have := (Step.callReceive hc hp
    (.refuse hbc hlk ((reach_lk sk hr c).early (.inr hp)).1 hcl hv.wakes.refuses)).to_step
  simpa [recvPc] using this

/-- on an open table `Receive` succeeds — whatever the state of the call's context (source fact
    `bcReceiveErrorsOnlyClosed`, in `Bc.Wakes`): the call is registered, an entry for its id exists, and
    nothing of the fatal-error machinery is touched -/
theorem callReceive_registers (c : Nat) (hp : (s.calls c).pc = .marshalled) (hcl : s.bc.closed = false) :
    ∃ s', step sk s (.callReceive c) = some s' ∧ (s'.calls c).pc = .registered ∧
      (s'.bc.table c).isSome = true ∧ s'.bc.closed = false ∧
      s'.setters = s.setters ∧ s'.fatalLog = s.fatalLog ∧ s'.slot = s.slot ∧ s'.link = s.link := by
  obtain ⟨hc, hbc, hlk⟩ := alive sk hv hr
  have hab := ((reach_lk sk hr c).early (Or.inr hp)).1
  have h1 : ¬ (s.bc.closed = true ∧ sk.bcReceiveRefusesWhenClosed = true) := by simp [hcl]
  have h2 : ¬ (s.bc.ctxs (s.calls c).ctx = true ∧ sk.bcReceiveErrorsOnlyClosed = false) := by simp [hv.wakes.onlyClosed]
  cases ht : s.bc.table c with
  | none => exact ⟨_, (Step.callReceive hc hp (.create hbc hlk hab h1 h2 ht)).to_step, by simp [recvPc], by simp, hcl, rfl, rfl, rfl, rfl⟩
  | some g => exact ⟨_, (Step.callReceive hc hp (.join hbc hlk hab h1 h2 ht)).to_step, by simp [recvPc], by simp [ht], hcl, rfl, rfl, rfl, rfl⟩

omit hr in
/-- the only failure of the stub's `Receive` step is the closed table -/
theorem callReceive_fails_closed (c : Nat) {s' : State} (hs : step sk s (.callReceive c) = some s')
    (hf : (s'.calls c).pc ≠ .registered) : s.bc.closed = true ∧ (s'.calls c).pc = .panicking eClosed := by
  have hoc := hv.wakes.onlyClosed
  cases Step.of_step hs with
  | callReceive _ _ hb => cases hb <;> simp_all [recvPc]

end

/-- a publisher and a waiter at the two ends of the same value channel: the hand-off is enabled -/
theorem rendezvous_same_gen (sk : Skeleton) (hp : Prog sk) {s : State} (hr : Reach sk s) (c p k v g x : Nat)
    (hw : s.waiters c = .recv) (hrc : s.bc.rcvs c = .waiting c g x) (hpb : s.bc.pubs p = .holding k v g) :
    ∃ s', step sk s (.waiterGetsValue c p) = some s' := by
  obtain ⟨hc, hbc, _⟩ := alive sk hp.lv hr
  obtain ⟨e, hent, -⟩ := (reach_wf sk hr).pub_holding hpb
  exact ⟨_, (Step.waiterGetsValue hc hw hpb (.rcvValue hbc hrc hpb hent
    ((reach_nc sk hp.lv.hyg hp.lv.nochan hr).nochan g e hent) hp.selChan hp.selSend)).to_step⟩

/-- The ready set of the receive function's select, exactly: which of its three cases is enabled for a waiter
    inside it that is bound to generation `g` — the closed signal iff the entry has left the table, the context case
    iff the call's context is done, the value case iff a publisher stands at the channel of `g`. -/
theorem recv_ready (sk : Skeleton) (hp : Prog sk) {s : State} (hr : Reach sk s) (c g : Nat)
    (hw : s.waiters c = .recv) (hrc : s.bc.rcvs c = .waiting c g (s.calls c).ctx) :
    ((step sk s (.waiterGetsDone c)).isSome = true ↔ s.bc.table c ≠ some g) ∧
    ((step sk s (.waiterGetsCtx c)).isSome = true ↔ s.bc.ctxs (s.calls c).ctx = true) ∧
    ∀ p, (step sk s (.waiterGetsValue c p)).isSome = true ↔ ∃ k v, s.bc.pubs p = .holding k v g := by
  obtain ⟨hc, hbc, _⟩ := alive sk hp.lv hr
  have hnc := reach_nc sk hp.lv.hyg hp.lv.nochan hr
  obtain ⟨e, hent, he⟩ := (reach_wf sk hr).rcv_waiting hrc
  have hch := hnc.nochan g e hent
  have hd : e.doneClosed = true ↔ s.bc.table c ≠ some g :=
    he ▸ Bc.done_iff_removed hnc (reach_wk sk hp.lv.hyg hp.lv.wakes hr) hent
  refine ⟨?_, ?_, fun p => ?_⟩
  · by_cases ht : s.bc.table c = some g <;>
      simp [step, Bc.step, hc, hbc, hw, hrc, hent, hch, hp.lv.selDone, hd, ht]
  · cases hx : s.bc.ctxs (s.calls c).ctx <;> simp [step, Bc.step, hc, hbc, hw, hrc, hp.lv.selCtx, hx]
  · cases hpb : s.bc.pubs p <;> simp [step, Bc.step, hc, hbc, hw, hrc, hent, hch, hpb, hp.selChan, hp.selSend]
    split <;> simp_all

end Panrpc.Ep
