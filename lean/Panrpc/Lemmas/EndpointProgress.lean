/-
  Lemmas/EndpointProgress.lean — no internal deadlock in M2 (C05): the general lemmas.

  The threads panrpc itself runs on the caller side of a link are
      stub c     the call thread while it is inside the generated stub (entered by the application)
      waiter c   the per-call goroutine around the receive function
      pub p      one `Publish` goroutine per response frame (an M1 publisher thread)
      setter t   a thread inside `setErr`
      link       the thread inside `Link…`
  `actThreads a` = the internal thread(s) whose own step the action `a` is (a rendezvous belongs
  to both parties); every other action is the environment: the application entering a stub or
  cancelling a context, the peer's frames arriving, a transport/codec failure reaching `setErr`.

  What is proved (general in the skeleton; the source facts are collected in `Prog`):
    * `not_parked_can_step`   a live thread that is not at one of the four blocking operations
                              (stub's select, receive function's select, Publish's select, Cond.Wait)
                              has an enabled own step — in particular no step ever waits for the mutex;
    * `wq_iff`, `pq_of_blocked`/`pq_blocked`, `sq_of_blocked`/`sq_blocked`
                              a parked thread without an enabled own step is in an explicitly
                              described "quiet" shape (`WQuiet`, `PQuiet`, `SQuiet`), and conversely;
    * `wq_step` …             a quiet shape survives every step that is neither the thread's own nor one of its
                              wakers (`wakesWaiter`, `wakesPub`, `wakesStub`);
    * `unblock_cause`         whatever step gives a blocked thread an enabled step again is a context
                              event (external) or an own step of a thread it `waitsOn`;
    * `awaited_can_step`      every live thread a blocked thread waits on has an enabled own
                              step — except a blocked stub's waiter, which may itself be parked in
                              the receive function, and then everything *it* waits on has one:
                              wait-for chains among blocked threads have length ≤ 2
                              (`no_blocked_chain`), no two threads wait for each other (`no_mutual_wait`);
    * `rendezvous_enabled`    publisher holds the entry of call c, waiter c inside the receive
                              function ⇒ the hand-off `waiterGetsValue c p` is enabled;
    * `stranded_blocked`      with an unbuffered `res` (pinned tree) a waiter holding a response
                              whose stub has returned is live and has no enabled step.
-/
import Panrpc.Lemmas.EndpointLive

namespace Panrpc.Ep

inductive Thread where
  | stub (c : Nat)
  | waiter (c : Nat)
  | pub (p : Nat)
  | setter (t : Nat)
  | link
  deriving DecidableEq, Repr

/-- the internal thread(s) that take this step; `[]` = a step of the environment -/
def actThreads : Act → List Thread
  | .callMarshalFail c | .callReceive c | .callSpawn c | .callWrite c | .callWriteFail c _
  | .callTakeRes c _ | .callLinkCtx c | .callRecover c _ | .callReturnOk c => [.stub c]
  | .waiterRecvCall c | .waiterGetsDone c | .waiterGetsCtx c | .waiterSend c | .waiterFree c => [.waiter c]
  | .waiterGetsValue c p => [.waiter c, .pub p]
  | .pubLookup p | .pubCtx p | .pubSendClosed p => [.pub p]
  | .setErrStore t | .setErrClose t => [.setter t]
  | .linkCheck | .linkWake | .linkReturn => [.link]
  | .callStart .. | .respFrame .. | .closureInvoke .. | .closureBodyDone .. | .setErrEnter .. | .watcher _
  | .ctxCancel _ | .ctxPropagate _ | .cancelLink => []

/-- started and not finished -/
def live (s : State) : Thread → Bool
  | .stub c => match (s.calls c).pc with
    | .absent | .returned => false
    | _ => true
  | .waiter c => match s.waiters c with
    | .absent | .exited => false
    | _ => true
  | .pub p => match s.bc.pubs p with
    | .start .. | .holding .. => true
    | _ => false
  | .setter t => match s.setters t with
    | .absent | .done => false
    | _ => true
  | .link => match s.link with
    | .returned _ => false
    | _ => true

/-- the thread stands at one of the blocking operations of the source:
    the stub's `select { <-res, <-linkCtx.Done() }`, the receive function's select,
    `Publish`'s `select { channel <- v, <-ctx.Done() }`, `Cond.Wait` -/
def parked (s : State) : Thread → Bool
  | .stub c => decide ((s.calls c).pc = .written)
  | .waiter c => decide (s.waiters c = .recv)
  | .pub p => match s.bc.pubs p with
    | .holding .. => true
    | _ => false
  | .setter _ => false
  | .link => decide (s.link = .waiting)

theorem parked_stub {s : State} {c : Nat} : parked s (.stub c) = true ↔ (s.calls c).pc = .written := by simp [parked]
theorem parked_waiter {s : State} {c : Nat} : parked s (.waiter c) = true ↔ s.waiters c = .recv := by simp [parked]
theorem parked_link {s : State} : parked s .link = true ↔ s.link = .waiting := by simp [parked]

/-- the thread has an enabled own step -/
def CanStep (sk : Skeleton) (s : State) (th : Thread) : Prop :=
  ∃ a, th ∈ actThreads a ∧ (step sk s a).isSome = true

theorem CanStep.intro {sk : Skeleton} {s s' : State} {a : Act} {th : Thread} (hs : step sk s a = some s')
    (hm : th ∈ actThreads a) : CanStep sk s th :=
  ⟨a, hm, by rw [hs]; rfl⟩

theorem Step.canStep {sk : Skeleton} {s s' : State} {a : Act} {th : Thread} (hs : Step sk s a s')
    (hm : th ∈ actThreads a) : CanStep sk s th :=
  .intro hs.to_step hm

/-- a context is cancelled (by the application), or the `context` package hands that on -/
def isCtxEvent : Act → Bool
  | .ctxCancel _ | .ctxPropagate _ | .cancelLink => true
  | _ => false

/-- `waitsOn s th th'`: an own step of `th'` can be what the parked thread `th` is waiting for
    (completeness: `unblock_cause`) -/
def waitsOn (s : State) : Thread → Thread → Prop
  | .stub c, .waiter c' => c' = c                               -- `res <- r`
  | .waiter c, .pub p => ∃ v, s.bc.pubs p = .start c v          -- a response frame of this call id on its way to the table lookup
  | .waiter _, .setter _ => True                                -- link end: `Close` raises every closed signal
  | .pub p, .waiter c => ∃ v g, s.bc.pubs p = .holding c v g    -- the waiter enters its select (hand-off) or frees the entry
  | .pub _, .setter _ => True                                   -- link end: `Close` cancels every entry context
  | .link, .setter _ => True                                    -- the store critical section broadcasts
  | _, _ => False

section
variable (sk : Skeleton) (hp : Prog sk) {s : State} (hr : Reach sk s)
include hp hr

theorem stub_can_step (c : Nat) (hl : live s (.stub c) = true) (hnp : (s.calls c).pc ≠ .written) :
    CanStep sk s (.stub c) := by
  obtain ⟨hc, hbc, hlk⟩ := alive sk hp.lv hr
  have hrel := canRelease_of sk hp.lv (cl_free sk hp.lv hr) c
  cases hpc : (s.calls c).pc with
  | absent | returned => simp [live, hpc] at hl
  | written => exact absurd hpc hnp
  | marshalled =>
    refine ⟨.callReceive c, .head _, ?_⟩
    rw [callReceive_isSome]; simp [hc, hpc, hbc, hlk, ((reach_lk sk hr c).early (.inr hpc)).1]
  | registered => exact (Step.callSpawn hc hpc).canStep (.head _)
  | spawned => exact (Step.callWriteFail (e := 0) hc hpc).canStep (.head _)
  | decoded => exact (Step.callReturnOk hc hpc hrel).canStep (.head _)
  | panicking e => exact (Step.callRecover hc hpc hrel hp.lv.recovers).canStep (.head _)

theorem waiter_can_step (c : Nat) (hl : live s (.waiter c) = true) (hnp : s.waiters c ≠ .recv) :
    CanStep sk s (.waiter c) := by
  cases hw : s.waiters c with
  | absent | exited => simp [live, hw] at hl
  | recv => exact absurd hw hnp
  | start =>
    obtain ⟨s1, h1, _⟩ := waiterRecvCall_enabled sk hp.lv hr c hw
    exact .intro h1 (.head _)
  | «have» r =>
    obtain ⟨s1, h1, _⟩ := waiterSend_enabled sk hp.lv hr c r hw
    exact .intro h1 (.head _)
  | sent =>
    obtain ⟨s1, h1, _⟩ := waiterFree_enabled sk hp.lv hr c hw
    exact .intro h1 (.head _)

/-- a publisher before its lookup: the lookup never waits (the mutex is never held across a
    blocking operation) -/
theorem pub_start_can_step (p k v : Nat) (hs : s.bc.pubs p = .start k v) : CanStep sk s (.pub p) := by
  obtain ⟨hc, hbc, hlk⟩ := alive sk hp.lv hr
  by_cases h : (s.bc.closed = true ∧ sk.bcPublishChecksClosed = true) ∨ s.bc.table k = none
  · exact (Step.pubLookup hc (.pubMiss hbc hlk hs h)).canStep (.head _)
  · cases hg : s.bc.table k with
    | none => exact absurd (.inr hg) h
    | some g => exact (Step.pubLookup hc (.pubHit hbc hlk hs (fun e => h (.inl e)) hg)).canStep (.head _)

/-- a thread inside `setErr` always has an enabled own step -/
theorem setter_can_step (t : Nat) (hl : live s (.setter t) = true) : CanStep sk s (.setter t) := by
  obtain ⟨hc, hbc, hlk⟩ := alive sk hp.lv hr
  cases ht : s.setters t with
  | absent | done => simp [live, ht] at hl
  | closedFirst e => exact absurd ht ((reach_pi sk hp.order hr).no_closedFirst t e)
  | entered e => exact (Step.storeThenClose hc ht hp.order.order).canStep (.head _)
  | stored e =>
    exact (Step.closeAfterStore hc ht hp.order.order (.closeClear hbc hlk hp.lv.hyg.closeClears)).canStep (.head _)

theorem link_can_step (hl : live s .link = true) (hnp : s.link ≠ .waiting) : CanStep sk s .link := by
  obtain ⟨hc, _, _⟩ := alive sk hp.lv hr
  cases hk : s.link with
  | returned e => simp [live, hk] at hl
  | waiting => exact absurd hk hnp
  | running =>
    by_cases h : s.slot = none ∧ sk.linkWaitsOnCond = true
    · exact (Step.linkPark hc hk h.1 h.2).canStep (.head _)
    · exact (Step.linkCheck hc hk h).canStep (.head _)
  | woken => exact (Step.linkWake hc hk).canStep (.head _)
  | read e => exact (Step.linkReturn hc hk).canStep (.head _)

/-- Every live thread that is not at one of the blocking operations has an enabled own step. -/
theorem not_parked_can_step (th : Thread) (hl : live s th = true) (hnp : parked s th = false) :
    CanStep sk s th := by
  cases th with
  | stub c => exact stub_can_step sk hp hr c hl (by simpa [parked] using hnp)
  | waiter c => exact waiter_can_step sk hp hr c hl (by simpa [parked] using hnp)
  | pub p =>
    cases hs : s.bc.pubs p with
    | start k v => exact pub_start_can_step sk hp hr p k v hs
    | holding k v g => simp [parked, hs] at hnp
    | absent | done _ => simp [live, hs] at hl
  | setter t => exact setter_can_step sk hp hr t hl
  | link => exact link_can_step sk hp hr hl (by simpa [parked] using hnp)

end

structure SQuiet (s : State) (c : Nat) : Prop where
  at_sel : (s.calls c).pc = .written
  nores  : s.res c = []
  nolink : s.linkCtxDone = false

theorem sq_of_blocked (sk : Skeleton) (hv : Live sk) {s : State} (hr : Reach sk s) (c : Nat)
    (hpc : (s.calls c).pc = .written) (hb : ¬ CanStep sk s (.stub c)) : SQuiet s c := by
  refine ⟨hpc, ?_, ?_⟩
  · cases hrs : s.res c with
    | nil => rfl
    | cons r rest =>
      exact absurd (.intro (callTakeRes_enabled sk hv hr c false r rest hpc hrs (.inr rfl)) (.head _)) hb
  · exact Bool.of_not_eq_true fun hl => hb (.intro (callLinkCtx_enabled sk hv hr c hpc hl) (.head _))

theorem sq_blocked (sk : Skeleton) {s : State} (c : Nat) (hq : SQuiet s c) : ¬ CanStep sk s (.stub c) := by
  obtain ⟨hpc, hres, hl⟩ := hq
  rintro ⟨a, hm, hs⟩
  cases a <;> simp [actThreads] at hm <;> subst hm <;> simp [step, hpc, hres, hl] at hs

/-- the steps that can end the quiet wait of call `c`'s stub: its waiter sends, the link context
    is cancelled -/
def wakesStub (c : Nat) : Act → Bool
  | .waiterSend c' => c' == c
  | .cancelLink => true
  | _ => false

theorem sq_step {sk : Skeleton} {s s' : State} {a : Act} {c : Nat} (hq : SQuiet s c)
    (hown : Thread.stub c ∉ actThreads a) (hn : wakesStub c a = false) (hs : Step sk s a s') : SQuiet s' c where
  at_sel := by
    have := hq.at_sel
    inv_cases hs [actThreads]
  nores := by
    have := hq.nores
    inv_cases hs [wakesStub]
  nolink := by
    have := hq.nolink
    inv_cases hs

theorem lq_blocked (sk : Skeleton) {s : State} (hq : s.link = .waiting) : ¬ CanStep sk s .link := by
  rintro ⟨a, hm, hs⟩
  cases a <;> simp [actThreads] at hm <;> simp [step, hq] at hs

/-- only the store critical section of some `setErr` wakes it -/
theorem lq_step {sk : Skeleton} {s s' : State} {a : Act} (hq : s.link = .waiting)
    (hn : ∀ t, a ≠ .setErrStore t) (hs : Step sk s a s') : s'.link = .waiting := by
  cases hs <;> first | exact hq | exact (hn _ rfl).elim | simp_all

structure WQuiet (s : State) (c g : Nat) : Prop where
  at_recv : s.waiters c = .recv
  rcv     : s.bc.rcvs c = .waiting c g (s.calls c).ctx
  tbl     : s.bc.table c = some g                       -- its entry is live
  ctx     : s.bc.ctxs (s.calls c).ctx = false           -- its context is not done
  nopub   : ∀ p k v, s.bc.pubs p ≠ .holding k v g       -- no publisher stands at its channel

/-- a waiter inside the receive function has no enabled step exactly when none of the three cases of the select is
    ready (`recv_ready`) -/
theorem wq_iff (sk : Skeleton) (hp : Prog sk) {s : State} (hr : Reach sk s) (c : Nat) (hw : s.waiters c = .recv) :
    ¬ CanStep sk s (.waiter c) ↔ ∃ g, WQuiet s c g := by
  obtain ⟨g, e, hrc, -⟩ := recv_shape sk hr c hw
  obtain ⟨h1, h2, h3⟩ := recv_ready sk hp hr c g hw hrc
  constructor
  · intro hb
    have hn : ∀ a, Thread.waiter c ∈ actThreads a → (step sk s a).isSome ≠ true := fun a hm h => hb ⟨a, hm, h⟩
    refine ⟨g, hw, hrc, ?_, ?_, fun p k v hpb => ?_⟩
    · exact Classical.byContradiction fun ht => hn (.waiterGetsDone c) (.head _) (h1.2 ht)
    · exact Bool.of_not_eq_true fun hx => hn (.waiterGetsCtx c) (.head _) (h2.2 hx)
    · exact hn (.waiterGetsValue c p) (.head _) ((h3 p).2 ⟨k, v, hpb⟩)
  · rintro ⟨g', hq⟩ ⟨a, hm, hs⟩
    obtain rfl : g' = g := by have := hq.rcv; rw [hrc] at this; cases this; rfl
    -- the waiter's six actions in the order of `Act`: recvCall, getsValue, getsDone, getsCtx, send, free; at `.recv` only
    -- the three outcomes of the select have a guard that can hold, and `WQuiet` refutes each
    cases a <;> simp [actThreads] at hm <;> subst hm
    · simp [step, hw] at hs
    · obtain ⟨k, v, h⟩ := (h3 _).1 hs; exact hq.nopub _ k v h
    · exact h1.1 hs hq.tbl
    · exact absurd (h2.1 hs) (by simp [hq.ctx])
    · simp [step, hw] at hs
    · simp [step, hw] at hs

/-- the steps that can end the quiet wait of call `c`'s waiter: its context is cancelled
    (the application), a publisher of its call id does its lookup (a response frame has arrived),
    `setErr` closes the table (the link ends) -/
def wakesWaiter (s : State) (c : Nat) : Act → Bool
  | .ctxCancel x => x == (s.calls c).ctx
  | .pubLookup p => match s.bc.pubs p with
    | .start k _ => k == c
    | _ => false
  | .setErrClose _ => true
  | _ => false

/-- no other step ends the quiet wait -/
theorem wakesWaiter_cases {s : State} {c : Nat} {a : Act} (h : wakesWaiter s c a = true) :
    a = .ctxCancel (s.calls c).ctx ∨ (∃ p v, a = .pubLookup p ∧ s.bc.pubs p = .start c v) ∨
    ∃ t, a = .setErrClose t := by
  cases a <;> simp only [wakesWaiter] at h <;> (try (simp at h; done))
  · rename_i p
    cases hpb : s.bc.pubs p <;> simp [hpb] at h
    subst h; exact .inr (.inl ⟨p, _, rfl, hpb⟩)
  · exact .inr (.inr ⟨_, rfl⟩)
  · simp at h; subst h; exact .inl rfl

theorem wq_step {sk : Skeleton} {s s' : State} {a : Act} {c g : Nat} (hl : LK s) (hw : Bc.WF s.bc)
    (hq : WQuiet s c g) (hown : Thread.waiter c ∉ actThreads a) (hn : wakesWaiter s c a = false)
    (hs : Step sk s a s') : WQuiet s' c g where
  at_recv := by
    have := hq.at_recv; have := fun c => (hl c).reg
    inv_cases hs [actThreads]
  rcv := by
    have := hq.rcv; have := fun c => (hl c).early
    inv_cases hs [actThreads] with ‹Bc.Step _ _ _ _›
  tbl := by
    have := hq.tbl
    inv_cases hs [actThreads, wakesWaiter] with ‹Bc.Step _ _ _ _›
  ctx := by
    have := hq.ctx; have := hq.at_recv; have := fun c => (hl c).early
    inv_cases hs [wakesWaiter] with ‹Bc.Step _ _ _ _›
  nopub := by
    have := hq.nopub; have := hq.tbl; have := hw.table_key
    inv_cases hs [wakesWaiter] with ‹Bc.Step _ _ _ _›

structure PQuiet (s : State) (p k v g : Nat) : Prop where
  hold   : s.bc.pubs p = .holding k v g
  ctx    : (s.bc.entries g).map Bc.Entry.ctxDone = some false       -- the entry context is not done
  norcv  : ∀ c k' x, s.waiters c = .recv → s.bc.rcvs c ≠ .waiting k' g x   -- nobody stands at the channel

theorem pq_of_blocked (sk : Skeleton) (hp : Prog sk) {s : State} (hr : Reach sk s) (p k v g : Nat)
    (hpb : s.bc.pubs p = .holding k v g) (hb : ¬ CanStep sk s (.pub p)) : PQuiet s p k v g := by
  obtain ⟨hc, hbc, _⟩ := alive sk hp.lv hr
  obtain ⟨e, hent, -⟩ := (reach_wf sk hr).pub_holding hpb
  refine ⟨hpb, ?_, fun c k' x hw hrc => ?_⟩
  · simpa [hent] using fun hd => hb ((Step.pubCtx hc (.pubCtx hbc hpb hent hd hp.selEntry)).canStep (.head _))
  · obtain rfl : k' = c := (reach_lk sk hr c).key k' g (by simp [hrc, Bc.Rcv.binding])
    obtain ⟨s1, h1⟩ := rendezvous_same_gen sk hp hr k' p k v g x hw hrc hpb
    exact hb (.intro h1 (.tail _ (.head _)))

theorem pq_blocked (sk : Skeleton) (hp : Prog sk) {s : State} (hr : Reach sk s) (p k v g : Nat)
    (hq : PQuiet s p k v g) : ¬ CanStep sk s (.pub p) := by
  obtain ⟨hpb, hx, hnr⟩ := hq
  have hnc := (reach_nc sk hp.lv.hyg hp.lv.nochan hr).nochan g
  rintro ⟨a, hm, hs⟩
  obtain ⟨s', hs⟩ := Option.isSome_iff_exists.1 hs
  cases a <;> simp [actThreads] at hm <;> subst hm <;> cases Step.of_step hs <;> cases ‹Bc.Step _ _ _ _› <;>
    simp_all

/-- the steps that can end the quiet wait of a publisher of call id `k`: call `k`'s waiter enters
    its select or frees the entry, `setErr` closes the table (the link ends), the `context`
    package hands on the cancellation of the call's context -/
def wakesPub (k : Nat) : Act → Bool
  | .waiterRecvCall c | .waiterFree c => c == k
  | .setErrClose _ | .ctxPropagate _ => true
  | _ => false

/-- no other step ends the quiet wait -/
theorem wakesPub_cases {k : Nat} {a : Act} (h : wakesPub k a = true) :
    a = .waiterRecvCall k ∨ a = .waiterFree k ∨ (∃ t, a = .setErrClose t) ∨ ∃ g', a = .ctxPropagate g' := by
  cases a <;> simp [wakesPub] at h
  · subst h; exact .inl rfl
  · subst h; exact .inr (.inl rfl)
  · exact .inr (.inr (.inl ⟨_, rfl⟩))
  · exact .inr (.inr (.inr ⟨_, rfl⟩))

theorem pq_step {sk : Skeleton} {s s' : State} {a : Act} {p k v g : Nat} (hl : LK s) (hw : Bc.WF s.bc)
    (hq : PQuiet s p k v g) (hown : Thread.pub p ∉ actThreads a) (hn : wakesPub k a = false)
    (hs : Step sk s a s') : PQuiet s' p k v g where
  hold := by
    have := hq.hold
    inv_cases hs [actThreads] with ‹Bc.Step _ _ _ _›
  ctx := by
    have := hq.ctx; have := hq.hold; have := hw.pub_lt; have := hw.pub_entry; have := hw.table_key
    inv_cases hs [wakesPub] with ‹Bc.Step _ _ _ _›
  norcv := by
    have := hq.norcv; have := hq.hold; have := fun t => (hl t).key
    have := hw.pub_entry; have := hw.rcv_entry
    inv_cases hs [wakesPub, Bc.Rcv.binding] with ‹Bc.Step _ _ _ _›

/-- A publisher holds the entry of call `c` and waiter `c` is inside the receive function: the
    hand-off is enabled (they stand at the two ends of the same channel: one generation per call
    id; the channel is never closed). -/
theorem rendezvous_enabled (sk : Skeleton) (hp : Prog sk) {s : State} (hr : Reach sk s) (c p v g : Nat)
    (hpb : s.bc.pubs p = .holding c v g) (hw : s.waiters c = .recv) :
    ∃ s', step sk s (.waiterGetsValue c p) = some s' := by
  obtain ⟨g', e', hrc, hent', hk'⟩ := recv_shape sk hr c hw
  obtain ⟨e, hent, he⟩ := (reach_wf sk hr).pub_holding hpb
  obtain rfl : g = g' := (reach_ug sk hr).unique g g' e e' hent hent' (by rw [he, hk'])
  exact rendezvous_same_gen sk hp hr c p c v g _ hw hrc hpb

theorem stranded_blocked (sk : Skeleton) (hcap : sk.stubResChanCap = 0) {s : State} (c : Nat) (r : Resp)
    (hpc : (s.calls c).pc = .returned) (hw : s.waiters c = .have r) :
    live s (.waiter c) = true ∧ ¬ CanStep sk s (.waiter c) := by
  refine ⟨by simp [live, hw], ?_⟩
  rintro ⟨a, hm, hs⟩
  cases a <;> simp [actThreads] at hm <;> subst hm <;> simp [step, hw, hcap, hpc] at hs


def Blocked (sk : Skeleton) (s : State) (th : Thread) : Prop := live s th = true ∧ ¬ CanStep sk s th

section
variable (sk : Skeleton) (hp : Prog sk) {s : State} (hr : Reach sk s)
include hp hr

theorem blocked_parked (th : Thread) (hb : Blocked sk s th) : parked s th = true :=
  Bool.of_not_eq_false fun h => hb.2 (not_parked_can_step sk hp hr th hb.1 h)

/-- what ends the wait of a blocked waiter, exactly: its context is cancelled, a publisher of its
    call id does its table lookup, or a `setErr` closes the table -/
theorem waiter_wakers {s' : State} (a : Act) (hs : step sk s a = some s') (c : Nat)
    (hb : Blocked sk s (.waiter c)) (hc : CanStep sk s' (.waiter c)) : wakesWaiter s c a = true := by
  have hw := parked_waiter.mp (blocked_parked sk hp hr _ hb)
  obtain ⟨g, hq⟩ := (wq_iff sk hp hr c hw).1 hb.2
  refine Bool.of_not_eq_false fun hwk => ?_
  have hq' := wq_step (reach_lk sk hr) (reach_wf sk hr) hq (fun hm => hb.2 (.intro hs hm)) hwk (.of_step hs)
  exact (wq_iff sk hp (Reach.step a hr hs) c hq'.at_recv).2 ⟨g, hq'⟩ hc

/-- what ends the wait of a blocked publisher of call id `k`, exactly: call `k`'s waiter enters the
    receive function or frees the entry, a `setErr` closes the table, or the cancellation of the
    call's context is handed on to the entry context -/
theorem pub_wakers {s' : State} (a : Act) (hs : step sk s a = some s') (p k v g : Nat)
    (hpb : s.bc.pubs p = .holding k v g) (hb : ¬ CanStep sk s (.pub p)) (hc : CanStep sk s' (.pub p)) :
    wakesPub k a = true :=
  Bool.of_not_eq_false fun hwk =>
    pq_blocked sk hp (Reach.step a hr hs) p k v g
      (pq_step (reach_lk sk hr) (reach_wf sk hr) (pq_of_blocked sk hp hr p k v g hpb hb)
        (fun hm => hb (.intro hs hm)) hwk (.of_step hs)) hc

/-- Completeness of `waitsOn`: whatever step gives a blocked thread an enabled step again is a
    context event (the application cancels a context; external) or an own step of a thread it
    waits on. -/
theorem unblock_cause {s' : State} (a : Act) (hs : step sk s a = some s') (th : Thread)
    (hb : Blocked sk s th) (hc : CanStep sk s' th) :
    isCtxEvent a = true ∨ ∃ th', th' ∈ actThreads a ∧ waitsOn s th th' := by
  have hpk := blocked_parked sk hp hr th hb
  have hown : th ∉ actThreads a := fun hm => hb.2 (.intro hs hm)
  cases th with
  | stub c =>
    have hq := sq_of_blocked sk hp.lv hr c (parked_stub.mp hpk) hb.2
    cases hwk : wakesStub c a with
    | false => exact absurd hc (sq_blocked sk c (sq_step hq hown hwk (.of_step hs)))
    | true =>
      cases a <;> simp [wakesStub] at hwk
      · subst hwk; exact .inr ⟨.waiter _, .head _, rfl⟩
      · exact .inl rfl
  | waiter c =>
    rcases wakesWaiter_cases (waiter_wakers sk hp hr a hs c hb hc) with rfl | ⟨p, v, rfl, hpb⟩ | ⟨t, rfl⟩
    · exact .inl rfl
    · exact .inr ⟨.pub p, .head _, v, hpb⟩
    · exact .inr ⟨.setter t, .head _, trivial⟩
  | pub p =>
    cases hpb : s.bc.pubs p <;> simp [parked, hpb] at hpk
    rcases wakesPub_cases (pub_wakers sk hp hr a hs p _ _ _ hpb hb.2 hc) with rfl | rfl | ⟨t, rfl⟩ | ⟨g', rfl⟩
    · exact .inr ⟨.waiter _, .head _, _, _, hpb⟩
    · exact .inr ⟨.waiter _, .head _, _, _, hpb⟩
    · exact .inr ⟨.setter t, .head _, trivial⟩
    · exact .inl rfl
  | setter t => exact absurd (setter_can_step sk hp hr t hb.1) hb.2
  | link =>
    have hq := parked_link.mp hpk
    by_cases hst : ∃ t, a = .setErrStore t
    · obtain ⟨t, rfl⟩ := hst
      exact .inr ⟨.setter t, .head _, trivial⟩
    · exact absurd hc (lq_blocked sk (lq_step hq (fun t h => hst ⟨t, h⟩) (.of_step hs)))

/-- the entry a blocked publisher holds is live: a removed entry's context is done -/
theorem blocked_pub_entry_live (p k v g : Nat) (hpb : s.bc.pubs p = .holding k v g)
    (hb : ¬ CanStep sk s (.pub p)) : s.bc.table k = some g := by
  obtain ⟨e, hent, rfl⟩ := (reach_wf sk hr).pub_holding hpb
  have hx : e.ctxDone = false := by simpa [hent] using (pq_of_blocked sk hp hr p _ v g hpb hb).ctx
  exact Classical.byContradiction fun hne => by
    simp [(reach_wk sk hp.lv.hyg hp.lv.wakes hr).removed_ctx g e hent hne] at hx

/-- No wait-for cycle: every live thread a blocked thread waits on has an enabled own step —
    except that the waiter a blocked stub waits on may itself be parked in the receive function
    (and then, by this very lemma, everything *that* waiter waits on has an enabled step). -/
theorem awaited_can_step (th th' : Thread) (hw : waitsOn s th th')
    (hl' : live s th' = true) : CanStep sk s th' ∨ ∃ c, th = .stub c ∧ th' = .waiter c := by
  cases th with
  | stub c =>
    cases th' <;> simp [waitsOn] at hw
    subst hw; exact Or.inr ⟨_, rfl, rfl⟩
  | waiter c =>
    cases th' <;> simp [waitsOn] at hw
    · obtain ⟨v, hv⟩ := hw
      exact Or.inl (pub_start_can_step sk hp hr _ _ _ hv)
    · exact Or.inl (setter_can_step sk hp hr _ hl')
  | pub p =>
    cases th' <;> simp [waitsOn] at hw
    · rename_i c
      left
      obtain ⟨v, g, hpb⟩ := hw
      by_cases hwc : s.waiters c = .recv
      · obtain ⟨s1, h1⟩ := rendezvous_enabled sk hp hr c p v g hpb hwc
        exact .intro h1 (.head _)
      · exact waiter_can_step sk hp hr c hl' hwc
    · exact Or.inl (setter_can_step sk hp hr _ hl')
  | setter t => cases th' <;> simp [waitsOn] at hw
  | link =>
    cases th' <;> simp [waitsOn] at hw
    exact Or.inl (setter_can_step sk hp hr _ hl')

/-- wait-for chains among blocked threads have at most two members (stub → its waiter) -/
theorem no_blocked_chain (th th' th'' : Thread) (hw : waitsOn s th th')
    (hb' : Blocked sk s th') (hw' : waitsOn s th' th'') : ¬ Blocked sk s th'' := by
  intro hb''
  rcases awaited_can_step sk hp hr th th' hw hb'.1 with h | ⟨c, rfl, rfl⟩
  · exact hb'.2 h
  · rcases awaited_can_step sk hp hr (.waiter c) th'' hw' hb''.1 with h | ⟨c', h, _⟩
    · exact hb''.2 h
    · cases h

/-- in particular no two blocked threads wait for each other -/
theorem no_mutual_wait (th th' : Thread) (hb : Blocked sk s th) (hw : waitsOn s th th')
    (hb' : Blocked sk s th') : ¬ waitsOn s th' th :=
  fun hw' => no_blocked_chain sk hp hr th th' th hw hb' hw' hb

/-- a blocked publisher's waiter exists or is about to: the entry it holds is live, and the call's
    waiter is live, or not spawned yet with the stub standing right before the `go` statement -/
theorem blocked_pub_has_waiter (p k v g : Nat) (hpb : s.bc.pubs p = .holding k v g)
    (hb : ¬ CanStep sk s (.pub p)) :
    s.bc.table k = some g ∧
    (live s (.waiter k) = true ∨ (s.waiters k = .absent ∧ (s.calls k).pc = .registered)) := by
  have ht := blocked_pub_entry_live sk hp hr p k v g hpb hb
  refine ⟨ht, ?_⟩
  have hti := reach_ti sk hp.lv.wfrees hp.lv.hyg hp.lv.nochan hr k
  cases hwt : s.waiters k with
  | exited => exact absurd hwt (hti.tbl_wait g ht).1
  | absent => exact Or.inr ⟨rfl, hti.absent_reg g ht hwt⟩
  | _ => left; simp [live, hwt]

end

theorem cancel_wakes_waiter (sk : Skeleton) (hv : Live sk) {s : State} (hr : Reach sk s) (c : Nat)
    (hw : s.waiters c = .recv) :
    ∃ s', step sk s (.ctxCancel (s.calls c).ctx) = some s' ∧ CanStep sk s' (.waiter c) := by
  obtain ⟨hc, hbc, _⟩ := alive sk hv hr
  have h1 := (Step.ctxCancel (sk := sk) (x := (s.calls c).ctx) hc (.ctxCancel hbc)).to_step
  obtain ⟨s2, h2, _⟩ := waiterGetsCtx_enabled sk hv (Reach.step _ hr h1) c hw (by simp)
  exact ⟨_, h1, .intro h2 (.head _)⟩

theorem cancelLink_wakes_stub (sk : Skeleton) (hv : Live sk) {s : State} (hr : Reach sk s) (c : Nat)
    (hpc : (s.calls c).pc = .written) :
    ∃ s', step sk s .cancelLink = some s' ∧ CanStep sk s' (.stub c) := by
  obtain ⟨hc, _, _⟩ := alive sk hv hr
  have h1 := (Step.cancelLink (sk := sk) hc).to_step
  have h2 := callLinkCtx_enabled sk hv (Reach.step _ hr h1) c hpc rfl
  exact ⟨_, h1, .intro h2 (.head _)⟩

/-- the Link thread is blocked only while no error has been stored: it waits for the first
    store critical section of a `setErr`, nothing else -/
theorem blocked_link_healthy (sk : Skeleton) (hp : Prog sk) {s : State} (hr : Reach sk s)
    (hb : Blocked sk s .link) : s.link = .waiting ∧ s.fatalLog = [] := by
  have hq := parked_link.mp (blocked_parked sk hp hr .link hb)
  exact ⟨hq, (reach_fi sk hp.first hr).waiting_nil hq⟩

end Panrpc.Ep
