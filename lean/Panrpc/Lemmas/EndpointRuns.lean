/-
  Lemmas/EndpointRuns.lean — explicit runs (bounded own-steps) composed from the enabledness
  lemmas; frame lemmas: which components a step cannot touch; independence of calls: a step of
  one call leaves the footprint `Foot` of every other call alone (C03, C04, C15).
-/
import Panrpc.Lemmas.EndpointLive
import Panrpc.Lemmas.EndpointDeliv

namespace Panrpc.Ep

/-- the own steps that take a waiter to its exit once its entry is gone -/
def waiterExitActs (w : Waiter) (c : Nat) : List Act :=
  match w with
  | .start  => [.waiterRecvCall c, .waiterGetsDone c, .waiterSend c, .waiterFree c]
  | .recv   => [.waiterGetsDone c, .waiterSend c, .waiterFree c]
  | .have _ => [.waiterSend c, .waiterFree c]
  | .sent   => [.waiterFree c]
  | _       => []

theorem waiterExitActs_length (w : Waiter) (c : Nat) : (waiterExitActs w c).length ≤ 4 := by
  cases w <;> simp [waiterExitActs]

theorem waiterExitActs_own (w : Waiter) (c : Nat) : ∀ a ∈ waiterExitActs w c, actCall a = some c := by
  cases w <;> simp [waiterExitActs, actCall]

/-- the own steps `acts` take the waiter of call `c` to its exit: its entry is gone, and no stub has moved -/
def Exits (sk : Skeleton) (s : State) (c : Nat) (acts : List Act) : Prop :=
  ∃ s', run sk s acts = some s' ∧ s'.waiters c = .exited ∧ s'.bc.table c = none ∧ s'.calls = s.calls

theorem Exits.cons {sk : Skeleton} {s s1 : State} {a : Act} {c : Nat} {acts : List Act}
    (h1 : step sk s a = some s1) (hc : s1.calls = s.calls) : Exits sk s1 c acts → Exits sk s c (a :: acts)
  | ⟨s', hrun, hw, ht, hc'⟩ => ⟨s', run_cons sk h1 hrun, hw, ht, hc'.trans hc⟩

section
variable (sk : Skeleton) (hv : Live sk) {s : State} (hr : Reach sk s) (c : Nat)
include hv hr

theorem exit_from_sent (hw : s.waiters c = .sent) : Exits sk s c [.waiterFree c] := by
  obtain ⟨s1, h1, hw1, hc1, -, ht1, -⟩ := waiterFree_enabled sk hv hr c hw
  exact ⟨s1, run_cons sk h1 (run_nil sk s1), hw1, ht1, hc1⟩

/-- `waiterSend`, `waiterFree`: enabled in turn whatever the call thread does -/
theorem exit_from_have (r : Resp) (hw : s.waiters c = .have r) : Exits sk s c [.waiterSend c, .waiterFree c] := by
  obtain ⟨s1, h1, hw1, hc1, -⟩ := waiterSend_enabled sk hv hr c r hw
  exact (exit_from_sent sk hv (.step _ hr h1) c hw1).cons h1 hc1

theorem exit_from_recv (hw : s.waiters c = .recv) (hgone : s.bc.table c = none) :
    Exits sk s c [.waiterGetsDone c, .waiterSend c, .waiterFree c] := by
  obtain ⟨s1, h1, hw1, hc1, -⟩ := waiterGetsDone_enabled sk hv hr c hw hgone
  exact (exit_from_have sk hv (.step _ hr h1) c _ hw1).cons h1 hc1

theorem exit_from_start (hw : s.waiters c = .start) (hgone : s.bc.table c = none) :
    Exits sk s c [.waiterRecvCall c, .waiterGetsDone c, .waiterSend c, .waiterFree c] := by
  obtain ⟨s1, h1, hw1, hc1, -, ht1⟩ := waiterRecvCall_enabled sk hv hr c hw
  exact (exit_from_recv sk hv (.step _ hr h1) c hw1 (ht1 ▸ hgone)).cons h1 hc1

/-- Every waiter whose call id has no entry in the pending-call table (it was freed, or the table closed: `closed_empty`)
    reaches `exited` by at most four steps of its own. -/
theorem waiter_exits (hgone : s.bc.table c = none) (hw : s.waiters c ≠ .absent) :
    Exits sk s c (waiterExitActs (s.waiters c) c) := by
  cases hk : s.waiters c with
  | absent => exact absurd hk hw
  | start => exact exit_from_start sk hv hr c hk hgone
  | recv => exact exit_from_recv sk hv hr c hk hgone
  | «have» r => exact exit_from_have sk hv hr c r hk
  | sent => exact exit_from_sent sk hv hr c hk
  | exited => exact ⟨s, run_nil sk s, hk, hgone, rfl⟩

/-- the call's context is done, its waiter is inside the receive function, the call thread is at
    its select: five own steps (three of the waiter, two of the call thread) return
    `(zero, ctx error)`; the entry is freed on the way. -/
theorem cancel_run (fail : Bool)
    (hw : s.waiters c = .recv) (hx : s.bc.ctxs (s.calls c).ctx = true) (hp : (s.calls c).pc = .written) :
    ∃ s', run sk s [.waiterGetsCtx c, .waiterSend c, .waiterFree c, .callTakeRes c fail, .callReturnOk c] = some s' ∧
      (s'.calls c).pc = .returned ∧ (s'.calls c).outcome = .ok { fromFrame := none, err := .ctxErr } ∧
      s'.waiters c = .exited ∧ s'.bc.table c = none := by
  obtain ⟨s1, h1, hw1, hc1, -⟩ := waiterGetsCtx_enabled sk hv hr c hw hx
  have hr1 := Reach.step _ hr h1
  obtain ⟨s2, h2, hw2, hc2, hs2, -⟩ := waiterSend_enabled sk hv hr1 c _ hw1
  have hr2 := Reach.step _ hr1 h2
  obtain ⟨s3, h3, hw3, hc3, hs3, ht3, -⟩ := waiterFree_enabled sk hv hr2 c hw2
  have hr3 := Reach.step _ hr2 h3
  have h4 := callTakeRes_enabled sk hv hr3 c fail _ [] (by rw [hc3, hc2, hc1]; exact hp) (by rw [hs3, hs2])
    (.inl (by simp [decodes, hv.skipDec]))
  have h5 := callReturnOk_enabled sk hv (.step _ hr3 h4) c (by simp)
  exact ⟨_, run_cons sk h1 (run_cons sk h2 (run_cons sk h3 (run_cons sk h4 (run_cons sk h5 (run_nil sk _))))),
    by simp, by simp, by simp [hw3], by simp [ht3]⟩

end

def touchesFatal : Act → Bool
  | .callRecover .. | .setErrEnter .. | .setErrStore .. | .setErrClose .. | .watcher .. => true
  | _ => false

/-- only a recovering stub, the watcher and the other setter threads enter or advance `setErr` -/
theorem fatal_frame (sk : Skeleton) {s s' : State} (a : Act) (hs : step sk s a = some s')
    (ha : touchesFatal a = false) :
    s'.setters = s.setters ∧ s'.fatalLog = s.fatalLog ∧ s'.slot = s.slot := by
  cases Step.of_step hs <;> first | exact ⟨rfl, rfl, rfl⟩ | cases ha

theorem fatal_frame_run (sk : Skeleton) {s s' : State} (acts : List Act)
    (ha : acts.all (fun a => !touchesFatal a) = true) (hrun : run sk s acts = some s') :
    s'.setters = s.setters ∧ s'.fatalLog = s.fatalLog ∧ s'.slot = s.slot :=
  (runFrom_rel (step := step sk) (I := fun _ => True) (P := fun a => touchesFatal a = false)
    (R := fun s s' => s'.setters = s.setters ∧ s'.fatalLog = s.fatalLog ∧ s'.slot = s.slot)
    (fun _ => ⟨rfl, rfl, rfl⟩) (fun ⟨a1, a2, a3⟩ ⟨b1, b2, b3⟩ => ⟨b1.trans a1, b2.trans a2, b3.trans a3⟩)
    (fun _ ha hs => ⟨trivial, fatal_frame sk _ hs ha⟩) trivial
    (fun a m => by simpa using List.all_eq_true.mp ha a m) hrun).2

def isPubAct : Act → Bool
  | .respFrame .. | .pubLookup .. | .pubCtx .. | .pubSendClosed .. => true
  | _ => false

theorem others_frame (sk : Skeleton) {s s' : State} (a : Act) (hs : step sk s a = some s')
    (c c' : Nat) (ha : actCall a = some c) (hne : c' ≠ c) :
    s'.calls c' = s.calls c' ∧ s'.waiters c' = s.waiters c' ∧ s'.res c' = s.res c' ∧
    s'.bc.rcvs c' = s.bc.rcvs c' ∧ s'.bc.table c' = s.bc.table c' := by
  obtain ⟨h1, h2, h3, h4, h5⟩ := (Step.of_step hs).call_local (c := c') (by rw [ha]; exact fun h => hne (Option.some.inj h).symm)
  exact ⟨h1, h2, h3, h4, h5.resolve_right fun ⟨⟨t, h⟩, _⟩ => by rw [h] at ha; cases ha⟩

/-- steps of publishers (response frames, late or not) touch no call, no waiter, no `res`
    channel, no receiver thread and no table entry at all -/
theorem pub_frame (sk : Skeleton) {s s' : State} (a : Act) (hs : step sk s a = some s')
    (ha : isPubAct a = true) :
    s'.calls = s.calls ∧ s'.waiters = s.waiters ∧ s'.res = s.res ∧
    s'.bc.rcvs = s.bc.rcvs ∧ s'.bc.table = s.bc.table ∧ s'.bc.entries = s.bc.entries ∧
    s'.closures = s.closures ∧ s'.setters = s.setters ∧ s'.fatalLog = s.fatalLog := by
  cases Step.of_step hs <;> cases ha <;> cases ‹Bc.Step _ _ _ _› <;> simp

/-- with an unbuffered `res`: once the call thread is gone, a waiter holding a response never
    moves again (no step of any thread changes that) -/
theorem stranded_forever (sk : Skeleton) (hcap : sk.stubResChanCap = 0) {s s' : State} (a : Act)
    (hs : step sk s a = some s') (c : Nat) (r : Resp)
    (hp : (s.calls c).pc = .returned) (hw : s.waiters c = .have r) :
    (s'.calls c).pc = .returned ∧ s'.waiters c = .have r := by
  by_cases h : actCall a = some c
  · cases a <;> simp [actCall] at h <;> subst h <;> simp [step, hp, hw, hcap] at hs
  · obtain ⟨h1, h2, -⟩ := (Step.of_step hs).call_local h
    rw [h1, h2]; exact ⟨hp, hw⟩

/-- a panicking stub leaves only through its recover: result `(zero, e)` -/
theorem panicking_exit (sk : Skeleton) {s s' : State} (a : Act) (hs : step sk s a = some s')
    (c e : Nat) (hp : (s.calls c).pc = .panicking e) :
    (s'.calls c).pc = .panicking e ∨ ((s'.calls c).pc = .returned ∧ (s'.calls c).outcome = .failed e) := by
  by_cases h : actCall a = some c
  · cases Step.of_step hs <;> simp [actCall] at h <;> subst h <;> simp_all [upd]
  · rw [((Step.of_step hs).call_local h).1]; exact Or.inl hp

/-- a late response: a frame for a call id that has no entry (any more) ends its publisher at
    the lookup and changes nothing else -/
theorem late_response_inert (sk : Skeleton) (hv : Live sk) {s : State} (hr : Reach sk s)
    (p k f : Nat) (h : Bool) (hp : s.bc.pubs p = .absent) (ht : s.bc.table k = none) :
    run sk s [.respFrame p k f h, .pubLookup p] =
      some { s with bc := { s.bc with pubs := upd s.bc.pubs p (.done false) }, pubErr := upd s.pubErr p h } := by
  obtain ⟨hc, hbc, hlk⟩ := alive sk hv hr
  simp [run, runFrom, step, Bc.step, hc, hbc, hlk, hp, ht, upd_upd]

/-- the entry is still live and no publisher stands at its hand-off: neither the closed-signal
    case nor the value case of the receive function's select is enabled -/
theorem only_ctx_ready (sk : Skeleton) (hp : Prog sk) {s : State} (hr : Reach sk s) (c g : Nat)
    (hw : s.waiters c = .recv) (hrc : s.bc.rcvs c = .waiting c g (s.calls c).ctx)
    (ht : s.bc.table c = some g) (hnp : ∀ p k v, s.bc.pubs p ≠ .holding k v g) :
    step sk s (.waiterGetsDone c) = none ∧ ∀ p, step sk s (.waiterGetsValue c p) = none := by
  obtain ⟨h1, -, h3⟩ := recv_ready sk hp hr c g hw hrc
  refine ⟨by simpa [ht, Option.isSome_iff_ne_none] using h1, fun p => ?_⟩
  simpa [hnp p, Option.isSome_iff_ne_none] using h3 p

/-- the actions that are outcomes of the select of call `c`'s waiter -/
def isRecvOutcome (a : Act) (c : Nat) : Bool :=
  match a with
  | .waiterGetsDone c' | .waiterGetsCtx c' | .waiterGetsValue c' _ => c' == c
  | _ => false

theorem recv_next (sk : Skeleton) {s s' : State} (a : Act) (hl : LK s) (hs : step sk s a = some s') (c : Nat)
    (hw : s.waiters c = .recv) : s'.waiters c = .recv ∨ isRecvOutcome a c = true := by
  by_cases h : actCall a = some c
  · have := (hl c).reg
    cases Step.of_step hs <;> simp [actCall] at h <;> subst h <;> simp_all [isRecvOutcome]
  · rw [((Step.of_step hs).call_local h).2.1]; exact Or.inl hw

/-- Whatever happens next to a waiter inside the receive function of a live entry, it ends up
    with the context error or with a response frame of its own call id that a publisher handed
    to it — nothing else. -/
theorem recv_either (sk : Skeleton) (hp : Prog sk) {s s' : State} (hr : Reach sk s) (a : Act)
    (hs : step sk s a = some s') (c g : Nat)
    (hw : s.waiters c = .recv) (hrc : s.bc.rcvs c = .waiting c g (s.calls c).ctx)
    (ht : s.bc.table c = some g) :
    s'.waiters c = .recv ∨ s'.waiters c = .have { fromFrame := none, err := .ctxErr } ∨
    ∃ v e, s'.waiters c = .have { fromFrame := some v, err := e } ∧ (e = .none ∨ e = .app) ∧
      delivered s' c v = true := by
  rcases recv_next sk a (reach_lk sk hr) hs c hw with h | h
  · exact Or.inl h
  · have hju := reach_ju sk (Reach.step a hr hs)
    cases a <;> simp [isRecvOutcome] at h <;> subst h
    · cases Step.of_step hs
      have hg := (hju _).w_ok _ (upd_same ..)
      exact .inr (.inr ⟨_, _, upd_same .., by split <;> simp, hg.1 _ rfl⟩)
    · have := (recv_ready sk hp hr _ g hw hrc).1.1 (by simp [hs])
      exact absurd ht this
    · cases Step.of_step hs; exact .inr (.inl (upd_same ..))

/-- `setErr` always completes, and ends with the table closed -/
theorem setErr_completes (sk : Skeleton) (hv : Live sk) (ho : StoreFirst sk) {s : State} (hr : Reach sk s)
    (t e : Nat) (ht : s.setters t = .entered e) :
    ∃ s', run sk s [.setErrStore t, .setErrClose t] = some s' ∧ s'.bc.closed = true ∧
      s'.setters t = .done ∧ s'.fatalLog = s.fatalLog ++ [e] := by
  obtain ⟨hc, hbc, hlk⟩ := alive sk hv hr
  have h1 := (Step.storeThenClose hc ht ho.order).to_step
  have h2 := (Step.closeAfterStore (s := { store sk s e with setters := upd s.setters t (.stored e) }) (t := t)
    hc (upd_same ..) ho.order (.closeClear hbc hlk hv.hyg.closeClears)).to_step
  exact ⟨_, run_cons sk h1 (run_cons sk h2 (run_nil sk _)), by simp [hv.wakes.closeSets], by simp, rfl⟩

/-- call `c` returns within `n` steps, all of them its own or its waiter's -/
def Returns (sk : Skeleton) (s : State) (c n : Nat) : Prop :=
  ∃ acts s', acts.length ≤ n ∧ run sk s acts = some s' ∧ (s'.calls c).pc = .returned ∧
    ∀ a ∈ acts, actCall a = some c

theorem Returns.cons {sk : Skeleton} {s s1 : State} {a : Act} {c n : Nat} (h1 : step sk s a = some s1)
    (ha : actCall a = some c) (h : Returns sk s1 c n) : Returns sk s c (n + 1) := by
  obtain ⟨acts, s', hl, hrun, hp, hown⟩ := h
  exact ⟨a :: acts, s', Nat.succ_le_succ hl, run_cons sk h1 hrun, hp, List.forall_mem_cons.mpr ⟨ha, hown⟩⟩

theorem Returns.mono {sk : Skeleton} {s : State} {c n m : Nat} (h : Returns sk s c n) (hnm : n ≤ m) :
    Returns sk s c m := by
  obtain ⟨acts, s', hl, h⟩ := h
  exact ⟨acts, s', Nat.le_trans hl hnm, h⟩

theorem Returns.now (sk : Skeleton) {s : State} {c : Nat} (h : (s.calls c).pc = .returned) : Returns sk s c 0 :=
  ⟨[], s, Nat.le_refl _, run_nil sk s, h, by simp⟩

/-- The table is closed and the call thread is at its select: at most four steps of its waiter and
    two of its own bring the call to `returned`. -/
theorem inflight_returns (sk : Skeleton) (hv : Live sk) {s : State} (hr : Reach sk s) (c : Nat)
    (hcl : s.bc.closed = true) (hp : (s.calls c).pc = .written) : Returns sk s c 6 := by
  have hw := (reach_ri sk hr c).has_waiter (Or.inr hp)
  obtain ⟨s1, h1, hw1, _, hc1⟩ := waiter_exits sk hv hr c ((reach_wk sk hv.hyg hv.wakes hr).closed_empty hcl c) hw
  have hr1 := reach_of_run sk _ hr h1
  have hp1 : (s1.calls c).pc = .written := by rw [hc1]; exact hp
  have hres := (reach_ri sk hr1 c).res_ready (Or.inr hp1) (Or.inr hw1)
  cases hrs : s1.res c with
  | nil => exact absurd hrs hres
  | cons r rest =>
    have h2 := callTakeRes_enabled sk hv hr1 c false r rest hp1 hrs (Or.inr rfl)
    have hr2 := Reach.step _ hr1 h2
    have h3 := callReturnOk_enabled sk hv hr2 c (by simp)
    refine ⟨waiterExitActs (s.waiters c) c ++ [.callTakeRes c false, .callReturnOk c], _, ?_,
      run_append sk h1 (run_cons sk h2 (run_cons sk h3 (run_nil sk _))), by simp, ?_⟩
    · have := waiterExitActs_length (s.waiters c) c
      simp; omega
    · have := waiterExitActs_own (s.waiters c) c
      simpa [actCall, or_imp, forall_and] using this

/-- The table is closed: whatever point of the stub a call thread has reached, at most eight
    steps of its own and of its waiter bring it to `returned` (spawn, write, four waiter steps,
    take, return). -/
theorem every_inflight_returns (sk : Skeleton) (hv : Live sk) {s : State} (hr : Reach sk s) (c : Nat)
    (hcl : s.bc.closed = true) (hp : (s.calls c).pc ≠ .absent) : Returns sk s c 8 := by
  obtain ⟨hc, _, _⟩ := alive sk hv hr
  have recovers {s : State} (hr : Reach sk s) (e : Nat) (hpc : (s.calls c).pc = .panicking e) : Returns sk s c 1 :=
    .cons (callRecover_enabled sk hv hr c e hpc) rfl (.now sk (by simp))
  have from_spawned : ∀ {s : State}, Reach sk s → s.bc.closed = true → (s.calls c).pc = .spawned →
      Returns sk s c 7 := by
    intro s hr hcl hp
    obtain ⟨hc, _, _⟩ := alive sk hv hr
    cases hl : s.linkCtxDone with
    | false =>
      have h1 := (Step.callWrite (sk := sk) hc hp hl).to_step
      exact .cons h1 rfl (inflight_returns sk hv (Reach.step _ hr h1) c (closed_mono sk _ h1 hcl) (by simp))
    | true =>
      have h1 := (Step.callWriteFail (sk := sk) (e := 0) hc hp).to_step
      exact (Returns.cons h1 rfl (recovers (Reach.step _ hr h1) eLinkCtx (by simp [hl]))).mono (by omega)
  cases hpc : (s.calls c).pc with
  | absent => exact absurd hpc hp
  | marshalled =>
    have h1 := callReceive_refused sk hv hr c hpc hcl
    exact (Returns.cons h1 rfl (recovers (Reach.step _ hr h1) eClosed (by simp))).mono (by omega)
  | registered =>
    have h1 := (Step.callSpawn (sk := sk) hc hpc).to_step
    exact .cons h1 rfl (from_spawned (Reach.step _ hr h1) (closed_mono sk _ h1 hcl) (by simp))
  | spawned => exact (from_spawned hr hcl hpc).mono (by omega)
  | written => exact (inflight_returns sk hv hr c hcl hpc).mono (by omega)
  | decoded => exact (Returns.cons (callReturnOk_enabled sk hv hr c hpc) rfl (.now sk (by simp))).mono (by omega)
  | panicking e => exact (recovers hr e hpc).mono (by omega)
  | returned => exact (Returns.now sk hpc).mono (by omega)

/-- what the enabledness of the steps of call `c'` and of its waiter depends on -/
structure Foot (c' : Nat) (s s' : State) : Prop where
  crashed  : s'.crashed = s.crashed
  bcrashed : s'.bc.crashed = s.bc.crashed
  lock     : s'.bc.lockHolder = s.bc.lockHolder
  linkCtx  : s'.linkCtxDone = s.linkCtxDone
  ctxs     : s'.bc.ctxs = s.bc.ctxs
  call     : s'.calls c' = s.calls c'
  waiter   : s'.waiters c' = s.waiters c'
  res      : s'.res c' = s.res c'
  setter   : s'.setters c' = s.setters c'
  rcv      : s'.bc.rcvs c' = s.bc.rcvs c'
  entry    : ∀ k g x, s.bc.rcvs c' = .waiting k g x → s'.bc.entries g = s.bc.entries g
  pubs     : ∀ k g x p, s.bc.rcvs c' = .waiting k g x → s'.bc.pubs p = s.bc.pubs p ∨
               ((∀ pk v, s.bc.pubs p ≠ .holding pk v g) ∧ (∀ pk v, s'.bc.pubs p ≠ .holding pk v g))
  cllock   : s'.clLock = s.clLock
  invokes  : s'.invokes = s.invokes
  running  : s'.running = s.running

theorem foot_enabled (sk : Skeleton) {s s' : State} (c' : Nat) (hf : Foot c' s s') (b : Act)
    (hb : actCall b = some c') : (step sk s' b).isSome = (step sk s b).isSome := by
  -- every guard of an action of `c'` reads only fields that `Foot` fixes: rewritten with them, both sides are one term
  -- (`waiterGetsValue`: publisher `p` is unchanged, or holds `g` on neither side)
  cases b with
  | waiterGetsDone c =>
    simp [actCall] at hb; subst hb
    simp only [step, Bc.step, hf.crashed, hf.bcrashed, hf.lock, hf.linkCtx, hf.ctxs, hf.waiter, hf.rcv]
    cases hrc : s.bc.rcvs c with
    | waiting k g x =>
      simp only [hf.entry k g x hrc]
      cases hent : s.bc.entries g with
      | none => simp
      | some e =>
        by_cases hg : s.crashed = false ∧ s.waiters c = .recv <;>
        by_cases hb : s.bc.crashed = false <;>
        by_cases h1 : e.doneClosed = true ∧ sk.bcRecvSelectsDone = true <;>
        by_cases h2 : e.chanClosed = true ∧ sk.bcRecvSelectsChan = true <;> simp [hg, hb, h1, h2]
    | _ => simp
  | waiterGetsValue c p =>
    simp [actCall] at hb; subst hb
    simp only [step, Bc.step, hf.crashed, hf.bcrashed, hf.lock, hf.linkCtx, hf.ctxs, hf.waiter, hf.rcv]
    cases hrc : s.bc.rcvs c with
    | waiting k g x =>
      have he := hf.entry k g x hrc
      rcases hf.pubs k g x p hrc with h | ⟨h1, h2⟩
      · simp only [h]
        cases hp : s.bc.pubs p <;> simp only [he] <;> first | rfl | grind
      · cases hp : s.bc.pubs p <;> cases hp' : s'.bc.pubs p <;> simp only [he] <;> (try rfl) <;> grind
    | _ => grind
  | callReceive c =>
    simp [actCall] at hb; subst hb
    rw [callReceive_isSome, callReceive_isSome, hf.crashed, hf.bcrashed, hf.lock, hf.call, hf.rcv]
  | _ =>
    simp [actCall] at hb <;> subst hb <;>
      simp only [step, Bc.step, releases, canRelease, noneRunning, newClosures, hf.crashed, hf.bcrashed, hf.lock,
        hf.linkCtx, hf.ctxs, hf.call, hf.waiter, hf.res, hf.setter, hf.rcv, hf.cllock, hf.invokes, hf.running] <;>
      first | rfl | grind

theorem foot_aux (sk : Skeleton) {s s' : State} (a : Act) (hs : step sk s a = some s')
    (hw : Bc.WF s.bc) (hl : LK s) (c c' : Nat) (ha : actCall a = some c) (hne : c' ≠ c) :
    s'.linkCtxDone = s.linkCtxDone ∧ s'.bc.ctxs = s.bc.ctxs ∧ s'.setters c' = s.setters c' ∧
    (∀ k g x, s.bc.rcvs c' = .waiting k g x → s'.bc.entries g = s.bc.entries g) ∧
    (∀ k g x p, s.bc.rcvs c' = .waiting k g x → s'.bc.pubs p = s.bc.pubs p ∨
       ((∀ pk v, s.bc.pubs p ≠ .holding pk v g) ∧ (∀ pk v, s'.bc.pubs p ≠ .holding pk v g))) ∧
    s'.invokes = s.invokes ∧ s'.running = s.running := by
  -- a step of call `c` touches only entries and publishers of generations whose key is `c` (`table_key`, `rcv_entry`,
  -- `pub_entry`, `LKc.key`); the generation `g` that `c'` waits on has key `c' ≠ c`
  have := hw.table_key; have := hw.rcv_entry; have := hw.rcv_lt; have := fun t => (hl t).key
  cases Step.of_step hs <;> simp [actCall] at ha <;> subst ha <;> (try cases ‹Bc.Step _ _ _ _›) <;>
    refine ⟨rfl, rfl, ?_, ?_, ?_, rfl, rfl⟩ <;>
    first | rfl | (intros; rfl) | (intros; exact Or.inl rfl) | (intros; grind [Bc.Rcv.binding])

/-- A step of call `c` (stub or waiter) leaves the footprint of every other call untouched. -/
theorem foot_of_step (sk : Skeleton) (hv : Live sk) {s s' : State} (hr : Reach sk s) (a : Act)
    (hs : step sk s a = some s') (c c' : Nat) (ha : actCall a = some c) (hne : c' ≠ c) : Foot c' s s' := by
  have hr' := Reach.step a hr hs
  obtain ⟨hc, hbc, hlk⟩ := alive sk hv hr
  obtain ⟨hc', hbc', hlk'⟩ := alive sk hv hr'
  obtain ⟨o1, o2, o3, o4, _⟩ := others_frame sk a hs c c' ha hne
  obtain ⟨a1, a2, a3, a4, a5, i1, i2⟩ := foot_aux sk a hs (reach_wf sk hr) (reach_lk sk hr) c c' ha hne
  -- the crash flags and the two mutexes are what they are in every reachable state; the rest are frames
  exact { crashed := hc'.trans hc.symm, bcrashed := hbc'.trans hbc.symm, lock := hlk'.trans hlk.symm,
          cllock := (cl_free sk hv hr').trans (cl_free sk hv hr).symm,
          call := o1, waiter := o2, res := o3, rcv := o4, linkCtx := a1, ctxs := a2, setter := a3, entry := a4,
          pubs := a5, invokes := i1, running := i2 }

end Panrpc.Ep
