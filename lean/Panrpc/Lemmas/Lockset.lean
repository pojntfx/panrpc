/-
  Lemmas/Lockset.lean — `lockset_race_free`: in a well-formed trace whose threads follow a
  disciplined access table no two accesses race.
-/
import Panrpc.Model.Lockset

namespace Panrpc.Ls

theorem hb_lt {tr : Trace} {i j : Nat} (h : HB tr i j) : i < j := by
  induction h with
  | po h _ _ => exact h
  | mutex h _ _ => exact h
  | chan h _ _ => exact h
  | trans _ _ ih1 ih2 => exact Nat.lt_trans ih1 ih2

theorem holdAt_succ_acq {tr : Trace} {i t : Nat} {m : String} (h : tr[i]? = some (t, .acq m)) :
    holdAt tr (i + 1) m = some t := by
  simp [holdAt, h]

theorem holdAt_succ_rel {tr : Trace} {i t : Nat} {m : String} (h : tr[i]? = some (t, .rel m)) :
    holdAt tr (i + 1) m = none := by
  simp [holdAt, h]

theorem holdAt_succ_cases (tr : Trace) (i : Nat) (m : String) :
    (∃ t, tr[i]? = some (t, .acq m) ∧ holdAt tr (i + 1) m = some t) ∨
    (∃ t, tr[i]? = some (t, .rel m) ∧ holdAt tr (i + 1) m = none) ∨
    holdAt tr (i + 1) m = holdAt tr i m := by
  -- by cases on event `i`, and for an `acq` / `rel` on whether it is one of `m`
  simp only [holdAt]
  split <;> (try split) <;> simp_all

theorem first_change (p : Nat → Prop) (i : Nat) : ∀ j, i ≤ j → ¬ p i → p j →
    ∃ k, i ≤ k ∧ k < j ∧ ¬ p k ∧ p (k + 1) := by
  intro j hij h1
  induction hij with
  | refl => exact fun h2 => absurd h2 h1
  | @step j hij ih =>
    intro h2
    by_cases hj : p j
    · obtain ⟨k, hk1, hk2, hk3⟩ := ih hj
      exact ⟨k, hk1, Nat.lt_succ_of_lt hk2, hk3⟩
    · exact ⟨j, hij, Nat.lt_succ_self j, hj, h2⟩

theorem acquired_between (tr : Trace) (m : String) (t i : Nat) :
    ∀ j, i ≤ j → holdAt tr i m ≠ some t → holdAt tr j m = some t →
      ∃ k, i ≤ k ∧ k < j ∧ tr[k]? = some (t, .acq m) := by
  intro j hij h1 h2
  obtain ⟨k, hk1, hk2, hn, hy⟩ := first_change (holdAt tr · m = some t) i j hij h1 h2
  refine ⟨k, hk1, hk2, ?_⟩
  rcases holdAt_succ_cases tr k m with ⟨t', ha, hh⟩ | ⟨t', _, hh⟩ | hh <;> rw [hh] at hy
  · cases hy; exact ha
  · cases hy
  · exact absurd hy hn

/-- (well-formedness: while `t` holds `m` nobody else can release or acquire it) -/
theorem released_between (tr : Trace) (hwf : WF tr) (m : String) (t i : Nat) :
    ∀ j, i ≤ j → holdAt tr i m = some t → holdAt tr j m ≠ some t →
      ∃ r, i ≤ r ∧ r < j ∧ tr[r]? = some (t, .rel m) := by
  intro j hij h1 h2
  obtain ⟨k, hk1, hk2, hn, hy⟩ := first_change (holdAt tr · m ≠ some t) i j hij (by simpa using h1) h2
  refine ⟨k, hk1, hk2, ?_⟩
  have hn := Classical.not_not.mp hn
  rcases holdAt_succ_cases tr k m with ⟨t', ha, _⟩ | ⟨t', hr, _⟩ | hh
  · cases (hwf.acq_free k t' m ha).symm.trans hn
  · cases (hwf.rel_held k t' m hr).symm.trans hn; exact hr
  · exact absurd (hh ▸ hn) hy

theorem closed_before (tr : Trace) (c : String) :
    ∀ i, closedAt tr i c = true → ∃ k t, k < i ∧ tr[k]? = some (t, .closeCh c) := by
  intro i h
  obtain ⟨k, -, hk2, hn, hy⟩ := first_change (closedAt tr · c = true) 0 i (Nat.zero_le i) (by simp [closedAt]) h
  simp only [closedAt] at hy
  split at hy
  · next t c' he =>
    split at hy
    · next hc => exact ⟨k, t, hk2, hc ▸ he⟩
    · exact absurd hy hn
  · exact absurd hy hn

/-- Mutex case: two events of different threads, each performed while its thread holds `m`,
    are ordered by happens-before (the earlier critical section's release is synchronized
    before the later one's acquire). -/
theorem mutex_orders (tr : Trace) (hwf : WF tr) (m : String) {i j t1 t2 : Nat} {e1 e2 : Ev}
    (hij : i < j) (hne : t1 ≠ t2)
    (h1 : tr[i]? = some (t1, e1)) (h2 : tr[j]? = some (t2, e2))
    (hnr : ∀ m', e1 ≠ .rel m')
    (hh1 : holdAt tr i m = some t1) (hh2 : holdAt tr j m = some t2) : HB tr i j := by
  obtain ⟨r, hir, hrj, hr⟩ := released_between tr hwf m t1 i j (Nat.le_of_lt hij) hh1
    fun h => hne (Option.some.inj (h.symm.trans hh2))
  -- the release is not event `i` itself, which is no release
  have hir' : i < r := Nat.lt_of_le_of_ne hir fun h => by
    subst h; rw [h1] at hr; cases hr; exact hnr m rfl
  have hfree : holdAt tr (r + 1) m ≠ some t2 := by
    rw [holdAt_succ_rel hr]; simp
  obtain ⟨k, hrk, hkj, hk⟩ := acquired_between tr m t2 (r + 1) j (by omega) hfree hh2
  exact HB.trans (HB.po hir' h1 hr)
    (HB.trans (HB.mutex (by omega) hr hk) (HB.po hkj hk h2))

/-- Close case: a write that precedes the only `close(c)` in its thread's program order
    happens-before a read that follows a receive-from-closed `c` in its thread's program order. -/
theorem close_orders (tr : Trace) (hwf : WF tr) (c : String) {i j r tw tr' : Nat} {e1 e2 : Ev}
    (h1 : tr[i]? = some (tw, e1)) (h2 : tr[j]? = some (tr', e2))
    (hcl : ∀ k t', tr[k]? = some (t', .closeCh c) → t' = tw ∧ i < k)
    (hrj : r < j) (hr : tr[r]? = some (tr', .recvClosed c)) : HB tr i j := by
  obtain ⟨k, t', hkr, hk⟩ := closed_before tr c r (hwf.recv_closed r tr' c hr)
  obtain ⟨ht, hik⟩ := hcl k t' hk
  subst ht
  exact HB.trans (HB.po hik h1 hk) (HB.trans (HB.chan hkr hk hr) (HB.po hrj hr h2))

theorem commonLock_spec (es : List Access) (h : commonLock es = true) :
    ∃ m, ∀ a ∈ es, m ∈ a.locks := by
  cases es with
  | nil => exact ⟨"", by simp⟩
  | cons e es' =>
    simp only [commonLock, List.any_eq_true] at h
    obtain ⟨m, _, hm⟩ := h
    refine ⟨m, ?_⟩
    intro a ha
    have := (List.all_eq_true.mp hm) a ha
    simpa using this

theorem closeOrdered_spec (es : List Access) (h : closeOrdered es = true) :
    ∃ o, isClose o = true ∧ ∀ a ∈ es, a.order = o := by
  cases es with
  | nil => exact ⟨"close:", by decide, by simp⟩
  | cons e es' =>
    simp only [closeOrdered, Bool.and_eq_true] at h
    obtain ⟨⟨hc, hall⟩, _⟩ := h
    refine ⟨e.order, hc, ?_⟩
    intro a ha
    have := (List.all_eq_true.mp hall) a ha
    simpa using this

theorem disciplined_spec (accs : List Access) (h : disciplined accs = true) : Disciplined accs := by
  intro x
  by_cases hx : ∃ a ∈ accs, a.var = x
  · obtain ⟨a0, ha0, hv0⟩ := hx
    have hv : varOk accs x = true := hv0 ▸ List.all_eq_true.mp h a0 ha0
    simp only [varOk, Bool.or_eq_true] at hv
    have hmem : ∀ a, a ∈ accs → a.var = x → a ∈ accs.filter (fun a => a.var == x) := by
      intro a ha hax
      simp [List.mem_filter, ha, hax]
    rcases hv with (hv | hv) | hv
    · left
      intro a ha hax
      have := (List.all_eq_true.mp hv) a (hmem a ha hax)
      simpa using this
    · right; left
      obtain ⟨m, hm⟩ := commonLock_spec _ hv
      exact ⟨m, fun a ha hax => hm a (hmem a ha hax)⟩
    · right; right
      obtain ⟨o, ho, hall⟩ := closeOrdered_spec _ hv
      exact ⟨o, ho, fun a ha hax => hall a (hmem a ha hax)⟩
  · left
    intro a ha hax
    exact absurd ⟨a, ha, hax⟩ hx

theorem lockset_orders (accs : List Access) (hd : Disciplined accs)
    (tr : Trace) (hwf : WF tr) (hf : Follows accs tr)
    {i j t1 t2 : Nat} {e1 e2 : Ev} {x : String} {w1 w2 : Bool}
    (hij : i < j) (h1 : tr[i]? = some (t1, e1)) (h2 : tr[j]? = some (t2, e2))
    (ha1 : e1.access = some (x, w1)) (ha2 : e2.access = some (x, w2))
    (hw : w1 = true ∨ w2 = true) (hne : t1 ≠ t2) : HB tr i j := by
  obtain ⟨a1, hm1, hv1, hwr1, ok1⟩ := hf i t1 e1 x w1 h1 ha1
  obtain ⟨a2, hm2, hv2, hwr2, ok2⟩ := hf j t2 e2 x w2 h2 ha2
  rcases hd x with hnw | ⟨m, hm⟩ | ⟨o, ho, hall⟩
  · -- never written: no write event can be matched
    have := hnw a1 hm1 hv1
    have := hnw a2 hm2 hv2
    rcases hw with hw | hw <;> simp_all
  · have hnr : ∀ m', e1 ≠ .rel m' := by
      intro m' he; subst he; simp [Ev.access] at ha1
    exact mutex_orders tr hwf m hij hne h1 h2 hnr
      (ok1.locks m (hm a1 hm1 hv1)) (ok2.locks m (hm a2 hm2 hv2))
  · obtain rfl : a1.order = o := hall a1 hm1 hv1
    have ho2 : a2.order = a1.order := hall a2 hm2 hv2
    have hc2 : isClose a2.order = true := ho2 ▸ ho
    cases w1 with
    | true =>
      obtain ⟨hcl1, hsw1⟩ := ok1.close_wr ho hwr1
      cases w2 with
      | true =>
        -- two writes: same (single) writer thread
        have he2 : e2 = .wr a1.var := by
          cases e2 <;> simp [Ev.access] at ha2
          rw [hv1]; simp [ha2]
        subst he2
        exact absurd (hsw1 j t2 h2).symm hne
      | false =>
        obtain ⟨r, hrj, hr⟩ := ok2.close_rd hc2 hwr2
        rw [ho2] at hr
        exact close_orders tr hwf (chanOf a1.order) h1 h2 hcl1 hrj hr
    | false =>
      cases w2 with
      | false => simp at hw
      | true =>
        -- read before write is impossible: the write happens-before the read here, too, so it is the earlier event
        obtain ⟨hcl2, _⟩ := ok2.close_wr hc2 hwr2
        obtain ⟨r, hri, hr⟩ := ok1.close_rd ho hwr1
        rw [← ho2] at hr
        exact absurd (hb_lt (close_orders tr hwf _ h2 h1 hcl2 hri hr)) (by omega)

/-- **Lockset theorem.**  In every well-formed interleaving whose threads follow a disciplined
    access table, no two accesses race. -/
theorem lockset_race_free (accs : List Access) (hd : disciplined accs = true)
    (tr : Trace) (hwf : WF tr) (hf : Follows accs tr) : ∀ i j, ¬ Race tr i j := by
  intro i j ⟨⟨t1, t2, e1, e2, x, w1, w2, h1, h2, ha1, ha2, hw, hne⟩, hn1, hn2⟩
  have hD := disciplined_spec accs hd
  rcases Nat.lt_trichotomy i j with hlt | heq | hgt
  · exact hn1 (lockset_orders accs hD tr hwf hf hlt h1 h2 ha1 ha2 hw hne)
  · subst heq
    rw [h1] at h2; cases h2
    exact hne rfl
  · exact hn2 (lockset_orders accs hD tr hwf hf hgt h2 h1 ha2 ha1 (Or.symm hw) (Ne.symm hne))

theorem all_range_at {tr : Trace} {f : Nat → Bool} (h : (List.range tr.length).all f = true) {i : Nat}
    {x : Nat × Ev} (he : tr[i]? = some x) : f i = true :=
  List.all_eq_true.mp h i (List.mem_range.mpr (List.getElem?_eq_some_iff.mp he).1)

theorem wf_of_wfB (tr : Trace) (h : wfB tr = true) : WF tr := by
  refine ⟨?_, ?_, ?_, ?_⟩ <;> intro i t m he <;> have := all_range_at h he <;> simp [evOk, he] at this <;> exact this

theorem entryOk_of_entryOkB (tr : Trace) (i t : Nat) (a : Access) (h : entryOkB tr i t a = true) :
    EntryOk tr i t a := by
  simp only [entryOkB, Bool.and_eq_true, Bool.or_eq_true, Bool.not_eq_true'] at h
  obtain ⟨hl, hc⟩ := h
  refine ⟨?_, ?_, ?_⟩
  · intro m hm
    have := (List.all_eq_true.mp hl) m hm
    simpa using this
  · intro hcl hw
    rcases hc with hc | hc
    · rw [hcl] at hc; simp at hc
    · rw [if_pos hw] at hc
      constructor <;> intro k t' he <;> have := all_range_at hc he <;> simp [closeWrOk, he] at this <;> exact this
  · intro hcl hw
    rcases hc with hc | hc
    · rw [hcl] at hc; simp at hc
    · rw [if_neg (by simp [hw])] at hc
      obtain ⟨r, hr, he⟩ := List.any_eq_true.mp hc
      exact ⟨r, List.mem_range.mp hr, by simpa using he⟩

theorem follows_of_followsB (accs : List Access) (tr : Trace) (h : followsB accs tr = true) :
    Follows accs tr := by
  intro i t e x w he ha
  have := all_range_at h he
  simp only [followsAt, he, ha] at this
  obtain ⟨a, hm, hh⟩ := List.any_eq_true.mp this
  simp only [Bool.and_eq_true, beq_iff_eq] at hh
  exact ⟨a, hm, hh.1.1, hh.1.2, entryOk_of_entryOkB tr i t a hh.2⟩

end Panrpc.Ls
