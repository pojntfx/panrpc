/-
  The lookup model (P0/P1) refines Spec/Exposed, layer by layer.  The type-level search is Go's depth
  rule (`typeFieldByName_iff`; the fuel suffices by a pigeonhole on embedding chains, `MinD.lt_length`).
  `FieldByIndex` on a well-formed value is selector evaluation (`fieldByIndex_wf`: one equation, the
  selected field with its flags or the nil-embedded-pointer panic).  `walkX_step` is one iteration of
  the loop in the specification's terms; soundness, completeness and the panic classes of lookup and
  resolution are inductions and case splits over it.
-/
import Panrpc.Lemmas.Split
import Panrpc.Spec.Exposed

namespace Panrpc.Lk

def levelOf (tt : TypeTable) (f : String) (d : Nat) (fr : List Scan) : List (List Nat) :=
  fr.flatMap fun sc => (fieldsAtDepth tt f d sc.1).map (sc.2 ++ ·)

theorem levelOf_zero (tt : TypeTable) (f : String) (fr : List Scan) :
    levelOf tt f 0 fr = fr.flatMap (scanMatches tt f) := by
  unfold levelOf scanMatches
  simp [fieldsAtDepth, List.map_flatMap, apply_ite (List.map _)]

theorem levelOf_succ (tt : TypeTable) (f : String) (d : Nat) (fr : List Scan) :
    levelOf tt f (d + 1) fr = levelOf tt f d (fr.flatMap (scanNext tt)) := by
  unfold levelOf
  rw [List.flatMap_assoc]
  congr 1
  funext sc
  simp only [fieldsAtDepth, scanNext, List.map_flatMap, List.flatMap_assoc]
  congr 1
  funext fi
  cases h : embTarget tt fi.1 <;> simp [List.map_map, Function.comp_def]

theorem levelOf_root (tt : TypeTable) (f : String) (d T : Nat) :
    levelOf tt f d [(T, [])] = fieldsAtDepth tt f d T := by
  simp [levelOf]

theorem bfs_eq_some_iff (tt : TypeTable) (f : String) (fuel : Nat) (fr : List Scan) (p : List Nat) :
    bfs tt f fuel fr = some p ↔
      ∃ d, d < fuel ∧ levelOf tt f d fr = [p] ∧ ∀ d', d' < d → levelOf tt f d' fr = [] := by
  induction fuel generalizing fr with
  | zero => simp [bfs]
  | succ fuel ih =>
    -- `d = 0`: the first level decides; `d = k + 1`: it is empty and the search goes on below
    simp only [bfs, ← levelOf_zero, Nat.exists_lt_succ_left, Nat.forall_lt_succ_left, levelOf_succ]
    split <;> simp [*]

theorem withIdx_eq_zipIdx {α : Type} (l : List α) (n : Nat) : withIdx l n = l.zipIdx n := by
  induction l generalizing n with
  | nil => rfl
  | cons a as ih => simp [withIdx, ih]

theorem mem_withIdx {α : Type} {l : List α} {x : α × Nat} : x ∈ withIdx l 0 ↔ l[x.2]? = some x.1 := by
  rw [withIdx_eq_zipIdx]; exact List.mem_zipIdx_iff_getElem?

theorem filter_key_eq {α κ : Type} [BEq κ] [LawfulBEq κ] (key : α → κ) {l : List α} {a : α}
    (hn : (l.map key).Nodup) (ha : a ∈ l) : l.filter (key · == key a) = [a] := by
  induction l with
  | nil => simp at ha
  | cons b bs ih =>
    simp only [List.map_cons, List.nodup_cons, List.mem_map, not_exists, not_and] at hn
    rcases List.mem_cons.mp ha with rfl | ha'
    · simpa [List.filter_eq_nil_iff] using hn.1
    · have : (key b == key a) = false := by simpa using fun e => hn.1 a ha' e.symm
      simp [this, ih hn.2 ha']

theorem flatMap_ite_singleton {α β : Type} (p : α → Bool) (g : α → β) (l : List α) :
    l.flatMap (fun a => if p a then [g a] else []) = (l.filter p).map g := by
  induction l with
  | nil => rfl
  | cons a as ih => cases h : p a <;> simp [h, ih]

theorem fieldsAtDepth_zero (tt : TypeTable) (f : String) (T : Nat) :
    fieldsAtDepth tt f 0 T = ((withIdx (structFields tt T) 0).filter (·.1.name == f)).map ([·.2]) :=
  flatMap_ite_singleton _ _ _

theorem mem_fieldsAtDepth_zero {tt : TypeTable} {f : String} {T : Nat} {p : List Nat} :
    p ∈ fieldsAtDepth tt f 0 T ↔ ∃ i fd, (structFields tt T)[i]? = some fd ∧ fd.name = f ∧ p = [i] := by
  simp only [fieldsAtDepth_zero, List.mem_map, List.mem_filter, mem_withIdx, Prod.exists, beq_iff_eq]
  exact ⟨fun ⟨fd, i, h, e⟩ => ⟨i, fd, h.1, h.2, e.symm⟩, fun ⟨i, fd, h1, h2, e⟩ => ⟨fd, i, ⟨h1, h2⟩, e.symm⟩⟩

theorem mem_fieldsAtDepth_succ {tt : TypeTable} {f : String} {d T : Nat} {p : List Nat} :
    p ∈ fieldsAtDepth tt f (d + 1) T ↔ ∃ i fd T' q, (structFields tt T)[i]? = some fd ∧
      embTarget tt fd = some T' ∧ q ∈ fieldsAtDepth tt f d T' ∧ p = i :: q := by
  simp only [fieldsAtDepth, List.mem_flatMap, mem_withIdx, Prod.exists]
  constructor
  · rintro ⟨fd, i, h, hp⟩
    cases he : embTarget tt fd <;> simp only [he, List.mem_map, List.not_mem_nil] at hp
    obtain ⟨q, hq, rfl⟩ := hp
    exact ⟨i, fd, _, q, h, he, hq, rfl⟩
  · rintro ⟨i, fd, T', q, h, he, hq, rfl⟩
    exact ⟨fd, i, h, by simp [he, hq]⟩

theorem fieldsAtDepth_ne_nil (tt : TypeTable) (f : String) (d T : Nat) : [] ∉ fieldsAtDepth tt f d T := by
  cases d <;> simp [mem_fieldsAtDepth_zero, mem_fieldsAtDepth_succ]

theorem lt_length_of_fieldsAtDepth (tt : TypeTable) (f : String) (d T : Nat) (h : fieldsAtDepth tt f d T ≠ []) : T < tt.length := by
  apply Classical.byContradiction
  intro hT
  have : structFields tt T = [] := by simp [structFields, List.getElem?_eq_none (Nat.le_of_not_lt hT)]
  cases d <;> simp [fieldsAtDepth, this, withIdx] at h

/-- `d` is the shallowest depth at which `f` occurs in `T` -/
def MinD (tt : TypeTable) (f : String) (T d : Nat) : Prop :=
  fieldsAtDepth tt f d T ≠ [] ∧ ∀ d', d' < d → fieldsAtDepth tt f d' T = []

theorem MinD.unique {tt : TypeTable} {f : String} {T a b : Nat} (ha : MinD tt f T a) (hb : MinD tt f T b) : a = b :=
  Nat.le_antisymm (Nat.le_of_not_lt fun h => hb.1 (ha.2 b h)) (Nat.le_of_not_lt fun h => ha.1 (hb.2 a h))

theorem MinD.child {tt : TypeTable} {f : String} {T d : Nat} (h : MinD tt f T (d + 1)) : ∃ T', MinD tt f T' d := by
  obtain ⟨p, hp⟩ := List.exists_mem_of_ne_nil _ h.1
  obtain ⟨i, fd, T', q, hi, he, hq, rfl⟩ := mem_fieldsAtDepth_succ.mp hp
  -- an occurrence at depth `d'` below the embedded `T'` is one at depth `d' + 1` below `T`
  refine ⟨T', List.ne_nil_of_mem hq, fun d' hd' => List.eq_nil_iff_forall_not_mem.mpr fun q' hq' => ?_⟩
  have := mem_fieldsAtDepth_succ.mpr ⟨i, fd, T', q', hi, he, hq', rfl⟩
  simp [h.2 (d' + 1) (by omega)] at this

/-- below a type of shallowest depth `d` there are types of every shallowest depth `k ≤ d`: `d + 1`
    different rows of the table -/
theorem MinD.lt_length {tt : TypeTable} {f : String} {T d : Nat} (h : MinD tt f T d) : d < tt.length := by
  have chain : ∀ d T, MinD tt f T d → ∃ l : List Nat, l.length = d + 1 ∧ l.Nodup ∧
      ∀ x ∈ l, ∃ k, k ≤ d ∧ MinD tt f x k := by
    intro d
    induction d with
    | zero => exact fun T h => ⟨[T], rfl, by simp, by simpa using h⟩
    | succ d ih =>
      intro T h
      obtain ⟨T', hc⟩ := h.child
      obtain ⟨l, hlen, hnd, hall⟩ := ih T' hc
      refine ⟨T :: l, by simp [hlen], List.nodup_cons.mpr ⟨fun hmem => ?_, hnd⟩, ?_⟩
      · obtain ⟨k, hk, hmk⟩ := hall T hmem
        have := h.unique hmk
        omega
      · intro x hx
        rcases List.mem_cons.mp hx with rfl | hx'
        · exact ⟨d + 1, Nat.le_refl _, h⟩
        · obtain ⟨k, hk, hmk⟩ := hall x hx'
          exact ⟨k, by omega, hmk⟩
  obtain ⟨l, hlen, hnd, hall⟩ := chain d T h
  have := hnd.length_le_of_subset fun x hx =>
    let ⟨k, _, hk⟩ := hall x hx
    List.mem_range.mpr (lt_length_of_fieldsAtDepth tt f k x hk.1)
  rw [List.length_range, hlen] at this
  omega

def NamesNodup (tt : TypeTable) : Prop := ∀ T, ((structFields tt T).map (·.name)).Nodup

theorem NamesNodup.withIdx {tt : TypeTable} (hn : NamesNodup tt) (T : Nat) :
    ((withIdx (structFields tt T) 0).map (·.1.name)).Nodup := by
  have := hn T
  rwa [← List.zipIdx_map_fst 0 (structFields tt T), List.map_map, ← withIdx_eq_zipIdx] at this

section quick
variable (f : String)

theorem quick_none (l : List (FieldDecl × Nat)) (h : l.find? (fun fi => fi.1.name == f) = none) :
    l.flatMap (fun fi => if fi.1.name == f then [[fi.2]] else []) = [] := by
  rw [List.flatMap_eq_nil_iff]
  intro x hx
  have := (List.find?_eq_none.mp h) x hx
  simp [this]

end quick

/-- with distinct field names a field is the only one of its name at the top level -/
theorem fieldsAtDepth_zero_eq {tt : TypeTable} (hn : NamesNodup tt) {T i : Nat} {fd : FieldDecl}
    (h : (structFields tt T)[i]? = some fd) : fieldsAtDepth tt fd.name 0 T = [[i]] := by
  rw [fieldsAtDepth_zero, filter_key_eq (·.1.name) (hn.withIdx T) (a := (fd, i)) (mem_withIdx.mpr h)]
  rfl

/-- with distinct field names the quick scan is the first level of the breadth-first search -/
theorem typeFieldByName_eq_bfs (tt : TypeTable) (hn : NamesNodup tt) (T : Nat) (f : String) :
    typeFieldByName tt T f = if f = "" then none else bfs tt f (tt.length + 1) [(T, [])] := by
  unfold typeFieldByName quickScan
  split
  · rfl
  · cases h : (withIdx (structFields tt T) 0).find? (·.1.name == f) with
    | none => rfl
    | some x =>
      obtain rfl : x.1.name = f := by simpa using List.find?_some h
      simp only [bfs, ← levelOf_zero, levelOf_root,
        fieldsAtDepth_zero_eq hn (mem_withIdx.mp (List.mem_of_find?_eq_some h))]
      rfl

theorem typeFieldByName_iff (tt : TypeTable) (hn : NamesNodup tt) (T : Nat) (f : String) (p : List Nat) :
    typeFieldByName tt T f = some p ↔ Selects tt T f p := by
  rw [typeFieldByName_eq_bfs tt hn, Selects]
  split
  · simp [*]
  · simp only [bfs_eq_some_iff, levelOf_root, ne_eq, not_false_eq_true, true_and, *]
    constructor
    · rintro ⟨d, _, h⟩; exact ⟨d, h⟩
    · rintro ⟨d, h⟩
      have := MinD.lt_length (f := f) (T := T) ⟨by rw [h.1]; simp, h.2⟩
      exact ⟨d, by omega, h⟩

theorem Selects.mem {tt : TypeTable} {T : Nat} {f : String} {p : List Nat} (h : Selects tt T f p) :
    ∃ d, p ∈ fieldsAtDepth tt f d T := by
  obtain ⟨_, d, hd, _⟩ := h
  exact ⟨d, by rw [hd]; simp⟩

theorem field_of_fieldAt {tt : TypeTable} {x : RV} {i : Nat} {v' : Val} {fd : FieldDecl}
    (h : x.v.fieldAt tt i = some (v', fd)) :
    x.field tt i = .found ⟨v', x.sticky || (!fd.exported && !fd.embedded), !fd.exported && fd.embedded⟩ := by
  obtain ⟨v, s, e⟩ := x
  cases v <;> simp only [Val.fieldAt, reduceCtorEq] at h
  simp only [RV.field]
  split at h <;> simp_all

theorem derefEmb_eq (y : RV) : y.derefEmb = y.v.autoDeref.map ({ y with v := · }) := by
  obtain ⟨v, s, e⟩ := y
  cases v with
  | ptr _ t => cases t <;> rfl
  | _ => rfl

theorem derefEmb_none (y : RV) (h : y.derefEmb = none) : y.v.autoDeref = none := by
  simpa [derefEmb_eq] using h

theorem wf_fieldAt {tt : TypeTable} {T inst : Nat} {fs : List Val} {i : Nat} {fd : FieldDecl}
    (hw : wfVal tt (.struct T inst fs) = true) (h : (structFields tt T)[i]? = some fd) :
    ∃ v, (Val.struct T inst fs).fieldAt tt i = some (v, fd) ∧ v.ty = fd.ty ∧ wfVal tt v = true := by
  have hf : wfFields tt (structFields tt T) fs = true := by
    simp only [wfVal, structFields] at hw ⊢
    split at hw
    · next htt => rw [htt]; exact hw
    · cases hw
  simp only [Val.fieldAt, h]
  clear hw
  generalize structFields tt T = fds at h hf
  induction fds generalizing fs i with
  | nil => simp at h
  | cons a as ih =>
    cases fs with
    | nil => simp [wfFields] at hf
    | cons b bs =>
      simp only [wfFields, Bool.and_eq_true, beq_iff_eq] at hf
      cases i with
      | zero =>
        cases (show a = fd by simpa using h)
        exact ⟨b, rfl, hf.1.1, hf.1.2⟩
      | succ k => simpa using ih (by simpa using h) hf.2

theorem wf_struct_row {tt : TypeTable} {v : Val} {fds : List FieldDecl} {ms : List MethodDecl}
    (hw : wfVal tt v = true) (h : tt[v.ty]? = some (.struct fds ms)) : ∃ ty i fs, v = .struct ty i fs := by
  cases v with
  | struct ty i fs => exact ⟨ty, i, fs, rfl⟩
  | _ => simp only [Val.ty] at h; simp [wfVal, h] at hw

theorem wf_ptr_row {tt : TypeTable} {v : Val} {e : Nat} {ms : List MethodDecl}
    (hw : wfVal tt v = true) (h : tt[v.ty]? = some (.ptr e ms)) :
    ∃ ty t, v = .ptr ty t ∧ ∀ w, t = some w → w.ty = e ∧ wfVal tt w = true := by
  cases v with
  | ptr ty t =>
    simp only [Val.ty] at h
    simp only [wfVal, h] at hw
    exact ⟨ty, t, rfl, fun w hw' => by simpa [hw', wfTarget] using hw⟩
  | _ => simp only [Val.ty] at h; simp [wfVal, h] at hw

theorem wf_embedded {tt : TypeTable} {fd : FieldDecl} {T' : Nat} {w w' : Val}
    (he : embTarget tt fd = some T') (hty : w.ty = fd.ty) (hw : wfVal tt w = true)
    (hd : w.autoDeref = some w') :
    fd.embedded = true ∧ wfVal tt w' = true ∧ ∃ inst fs, w' = .struct T' inst fs := by
  unfold embTarget at he
  rw [← hty] at he
  split at he
  case isFalse => cases he
  refine ⟨‹_›, ?_⟩
  split at he
  · next h =>
    cases he
    obtain ⟨ty, i, fs, rfl⟩ := wf_struct_row hw h
    cases hd
    exact ⟨hw, i, fs, rfl⟩
  · next e _ h =>
    split at he <;> cases he
    next h' =>
    obtain ⟨ty, t, rfl, ht⟩ := wf_ptr_row hw h
    obtain ⟨rfl, hw'⟩ := ht w' hd
    obtain ⟨ty, i, fs, rfl⟩ := wf_struct_row hw' h'
    exact ⟨hw', i, fs, rfl⟩
  · cases he

/-- FieldByIndex on a well-formed struct value, along a path of the type-level search, is selector
    evaluation: it returns the selected field, flagged by that field's own declaration (the fields
    crossed on the way are embedded, and `Field` drops their flag), and panics exactly where the
    selector crosses a nil pointer. -/
theorem fieldByIndex_wf (tt : TypeTable) (f : String) : ∀ (d : Nat) (x : RV) (T inst : Nat) (fs : List Val) (p : List Nat),
    x.v = .struct T inst fs → wfVal tt x.v = true → p ∈ fieldsAtDepth tt f d T →
    match x.v.select tt p with
    | some (v', fd) => wfVal tt v' = true ∧ x.fieldByIndex tt p =
        .found ⟨v', x.sticky || (!fd.exported && !fd.embedded), !fd.exported && fd.embedded⟩
    | none => x.fieldByIndex tt p = .panic msgNilEmb
  | 0, x, T, inst, fs, p, hv, hw, hp => by
    obtain ⟨i, fd, hi, _, rfl⟩ := mem_fieldsAtDepth_zero.mp hp
    rw [hv] at hw
    obtain ⟨v, hf, _, hwv⟩ := wf_fieldAt hw hi
    rw [← hv] at hf
    simp only [RV.fieldByIndex, Val.select, field_of_fieldAt hf, hf, hwv, true_and]
  | d + 1, x, T, inst, fs, p, hv, hw, hp => by
    obtain ⟨i, fd, T', q, hi, he, hq, rfl⟩ := mem_fieldsAtDepth_succ.mp hp
    obtain _ | ⟨j, q⟩ := q
    · exact absurd hq (fieldsAtDepth_ne_nil tt f d T')
    rw [hv] at hw
    obtain ⟨w, hf, hty, hww⟩ := wf_fieldAt hw hi
    rw [← hv] at hf
    simp only [RV.fieldByIndex, Val.select, field_of_fieldAt hf, hf, derefEmb_eq]
    cases hd : w.autoDeref with
    | none => rfl
    | some w' =>
      obtain ⟨hemb, hw', inst', fs', rfl⟩ := wf_embedded he hty hww hd
      simpa [hemb] using fieldByIndex_wf tt f d ⟨_, _, _⟩ T' inst' fs' (j :: q) rfl hw' hq

theorem recvOf_eq_boundObject (v : Val) : v.recvOf = v.boundObject := by
  -- both look through one interface and one pointer; constructor by constructor they agree
  rcases v with _ | ⟨_, _ | w⟩ | ⟨_, _ | w⟩ | _ <;> try rfl
  · cases w <;> rfl
  · rcases w with _ | ⟨_, _ | u⟩ | _ | _ <;> try rfl
    cases u <;> rfl

/-- `rtype.MethodByName` searches the exported part of a concrete type's method set, and all of an
    interface's -/
theorem methodsOf_eq (tt : TypeTable) (v : Val) :
    methodsOf tt v = if v.isIface then declaredMethods tt v else (declaredMethods tt v).filter (·.exported) := by
  cases v <;> simp only [methodsOf, declaredMethods, Val.isIface, Bool.false_eq_true, if_false, if_true] <;>
    split <;> simp_all

def MethodsNodup (tt : TypeTable) : Prop := ∀ v, ((declaredMethods tt v).map (·.name)).Nodup

theorem methodByName_sound (tt : TypeTable) (x : RV) (name : String) (mv : MethodVal)
    (h : methodByName tt (some x) name = .found mv) (hu : mv.unexpIface = false) :
    mv.name = name ∧ mv.ro = (x.sticky || x.embed) ∧ HasMethod tt x.v name mv.numIn mv.recv := by
  simp only [methodByName] at h
  split at h
  · cases h
  · next md hfind =>
    have hname : md.name = name := by simpa using List.find?_some hfind
    have hmem := List.mem_of_find?_eq_some hfind
    rw [methodsOf_eq] at hmem
    split at h <;> cases h
    next hnil =>
    refine ⟨hname, rfl, ?_, recvOf_eq_boundObject _, md, ?_, hname, ?_, rfl⟩
    · cases hv : x.v with
      | iface ty d =>
        cases d with
        | none => exact absurd hv (hnil ty)
        | some w => rfl
      | _ => rfl
    · split at hmem
      · exact hmem
      · exact (List.mem_filter.mp hmem).1
    · split at hmem
      · next hi => simpa [hi] using hu
      · exact (List.mem_filter.mp hmem).2

theorem methodByName_complete (tt : TypeTable) (hm : MethodsNodup tt) (x : RV) (m : String) (n : Nat)
    (recv : Option Nat) (h : HasMethod tt x.v m n recv) :
    methodByName tt (some x) m = .found ⟨recv, m, n, x.sticky || x.embed, false⟩ := by
  obtain ⟨hnil, rfl, md, hmem, rfl, hexp, rfl⟩ := h
  have hsub : ((methodsOf tt x.v).map (·.name)).Nodup ∧ md ∈ methodsOf tt x.v := by
    rw [methodsOf_eq]
    split
    · exact ⟨hm _, hmem⟩
    · exact ⟨(hm _).sublist (List.filter_sublist.map _), List.mem_filter.mpr ⟨hmem, hexp⟩⟩
  simp only [methodByName, ← List.head?_filter, filter_key_eq (·.name) hsub.1 hsub.2, List.head?_cons]
  split
  · next hv => simp [hv, Val.isNilIface] at hnil
  · simp [recvOf_eq_boundObject, hexp]

theorem methodByName_panic (tt : TypeTable) (c : RV) (name w : String)
    (h : methodByName tt (some c) name = .panic w) : w = msgNilIface := by
  simp only [methodByName] at h
  split at h
  · cases h
  · split at h <;> cases h
    rfl

/-- The statements of the lookup, as modelled, are all present in the source. -/
structure Faithful (sk : Skeleton) : Prop where
  split : sk.lkSplitOnDot = true
  empty : sk.lkEmptyPathRejected = true
  walks : sk.lkWalksAllButLast = true
  deref : sk.lkDerefPtrOnce = true
  nonStruct : sk.lkRejectsNonStruct = true
  fbn : sk.lkFieldByName = true
  invalidField : sk.lkRejectsInvalidField = true
  mbn : sk.lkMethodByNameOnLast = true
  nonFunc : sk.lkRejectsNonFunc = true
  fallback : sk.lkFallbackIsClosureManager = true
  fallbackNonFunc : sk.lkFallbackRejectsNonFunc = true
  argCount : sk.lkArgCountChecked = true
  perRequest : sk.lkResolvesPerRequest = true   -- `resolve` is a function of the CURRENT root: nothing resolved earlier is reused
  argCountFirst : sk.lkArgCountBeforeDecode = true   -- the count check precedes every access to the parameter list (`Type().In(i)`), to `req.Args[i]` and every `MakeFunc`: `argCheck` is the first thing that looks at the arity

theorem kindOfVal_struct {tt : TypeTable} {v : Val} : kindOfVal tt v = .struct ↔ ∃ T i fs, v = .struct T i fs := by
  cases v <;> simp [kindOfVal]
  split <;> simp

/-- `asStruct` is the model's `Elem` (on a pointer) followed by the `Kind() == Struct` test -/
theorem asStruct_cases (tt : TypeTable) (x : RV) :
    match x.v.asStruct with
    | some sv => elemIfPtr (some x) = some { x with v := sv } ∧ ∃ T inst fs, sv = .struct T inst fs
    | none => kindOf tt (elemIfPtr (some x)) ≠ .struct := by
  obtain ⟨v, s, e⟩ := x
  rcases v with _ | ⟨_, _ | w⟩ | _ | _
  case ptr.some => cases w <;> simp [Val.asStruct, elemIfPtr, kindOf, kindOfVal_struct]
  all_goals simp [Val.asStruct, elemIfPtr, kindOf, kindOfVal_struct]

theorem wf_asStruct {tt : TypeTable} {v sv : Val} (hw : wfVal tt v = true) (h : v.asStruct = some sv) :
    wfVal tt sv = true := by
  unfold Val.asStruct at h
  split at h <;> cases h
  · exact hw
  · simp only [wfVal] at hw
    split at hw
    · simp only [wfTarget, Bool.and_eq_true] at hw; exact hw.2
    · cases hw

theorem walkX_cons (sk : Skeleton) (hf : Faithful sk) (chk : Bool) (tt : TypeTable) (cur : Option RV)
    (name : String) (rest : List String) :
    walkX sk chk tt cur (name :: rest) =
      if kindOf tt (elemIfPtr cur) != .struct then .err errNonStruct
      else match fieldByName tt (elemIfPtr cur) name with
        | .panic p => .panic p
        | .invalid => .err errInvalidField
        | .found y => if chk && (y.sticky || y.embed) then .err errUnexported
                      else walkX sk chk tt (some y) rest := by
  simp [walkX, hf.deref, hf.nonStruct, hf.fbn, hf.invalidField]
  rfl

/-- One iteration of the loop on a well-formed value, in the specification's terms: the model's
    `Elem`/`Kind`/`FieldByName` (type-level search, then `FieldByIndex` with its flags) is `asStruct`,
    `Selects` (through `typeFieldByName_iff`) and `Val.select`. -/
theorem walkX_step (sk : Skeleton) (hf : Faithful sk) (chk : Bool) (tt : TypeTable) (hn : NamesNodup tt)
    (x : RV) (hw : wfVal tt x.v = true) (f : String) (rest : List String) :
    walkX sk chk tt (some x) (f :: rest) =
      match x.v.asStruct with
      | some (.struct T inst fs) =>
        match typeFieldByName tt T f with
        | none => .err errInvalidField
        | some p =>
          match (Val.struct T inst fs).select tt p with
          | none => .panic msgNilEmb
          | some (v', fd) =>
            if chk && (x.sticky || !fd.exported) then .err errUnexported
            else walkX sk chk tt
              (some ⟨v', x.sticky || (!fd.exported && !fd.embedded), !fd.exported && fd.embedded⟩) rest
      | _ => .err errNonStruct := by
  rw [walkX_cons sk hf]
  have hc := asStruct_cases tt x
  cases has : x.v.asStruct with
  | none => rw [has] at hc; simp [hc]
  | some sv =>
    rw [has] at hc
    obtain ⟨hel, T, inst, fs, rfl⟩ := hc
    simp only [hel, kindOf, kindOfVal, fieldByName, bne_self_eq_false, Bool.false_eq_true, if_false]
    cases htf : typeFieldByName tt T f with
    | none => rfl
    | some p =>
      obtain ⟨d, hd⟩ := ((typeFieldByName_iff tt hn T f p).mp htf).mem
      have := fieldByIndex_wf tt f d ⟨_, x.sticky, x.embed⟩ T inst fs p rfl (wf_asStruct hw has) hd
      simp only at this ⊢
      split at this
      · next v' fd hs =>
        have hb : ((x.sticky || !fd.exported && !fd.embedded) || !fd.exported && fd.embedded) = (x.sticky || !fd.exported) := by
          cases x.sticky <;> cases fd.exported <;> cases fd.embedded <;> rfl
        simp only [this.2, hs, hb]
      · next hs => rw [this, hs]

theorem wf_step {tt : TypeTable} (hn : NamesNodup tt) {v v' : Val} {T inst : Nat} {fs : List Val} {f : String}
    {p : List Nat} {fd : FieldDecl} (hw : wfVal tt v = true) (has : v.asStruct = some (.struct T inst fs))
    (htf : typeFieldByName tt T f = some p) (hs : (Val.struct T inst fs).select tt p = some (v', fd)) :
    wfVal tt v' = true := by
  obtain ⟨d, hd⟩ := ((typeFieldByName_iff tt hn T f p).mp htf).mem
  have := fieldByIndex_wf tt f d ⟨_, false, false⟩ T inst fs p rfl (wf_asStruct hw has) hd
  simp only [hs] at this
  exact this.1

/-- Soundness of the walk: if it arrives somewhere and a callable method is found there, the
    path is exposed — in the strict sense when the walk rejects unexported names (`chk`),
    otherwise in the lax sense. -/
theorem walkX_sound (sk : Skeleton) (hf : Faithful sk) (chk : Bool) (tt : TypeTable) (hn : NamesNodup tt)
    (m : String) (mv : MethodVal) (hro : mv.ro = false) (hu : mv.unexpIface = false) :
    ∀ (segs : List String) (x : RV) (cur : Option RV), wfVal tt x.v = true →
      walkX sk chk tt (some x) segs = .at cur → methodByName tt cur m = .found mv →
      mv.name = m ∧ x.sticky = false ∧ (segs = [] → x.embed = false) ∧
        ExposedG chk tt x.v segs m mv.numIn mv.recv
  | [], x, cur, _, hwalk, hm => by
    cases hwalk
    obtain ⟨h1, h2, h3⟩ := methodByName_sound tt x m mv hm hu
    rw [hro, eq_comm, Bool.or_eq_false_iff] at h2
    exact ⟨h1, h2.1, fun _ => h2.2, .method h3⟩
  | f :: rest, x, cur, hw, hwalk, hm => by
    rw [walkX_step sk hf chk tt hn x hw] at hwalk
    split at hwalk
    case h_2 => cases hwalk
    next T inst fs has =>
    split at hwalk
    · cases hwalk
    next p htf =>
    split at hwalk
    · cases hwalk
    next v' fd hs =>
    split at hwalk
    · cases hwalk
    next hchk =>
    obtain ⟨ih0, ih1, ih2, ih3⟩ :=
      walkX_sound sk hf chk tt hn m mv hro hu rest _ cur (wf_step hn hw has htf hs) hwalk hm
    simp only [Bool.or_eq_false_iff] at ih1
    refine ⟨ih0, ih1.1, by simp, .field has ((typeFieldByName_iff tt hn T f p).mp htf) hs ?_ ih3⟩
    -- `ih1`: no unexported plain field was crossed; `hchk`: the check let `fd` through; `ih2`: the
    -- walk did not stop on an unexported embedded field
    revert ih1 ih2 hchk
    cases chk <;> cases fd.exported <;> cases fd.embedded <;> simp <;> exact fun h _ => h

/-- Completeness of the walk: a path exposed in the sense the walk checks (`chk`) is walked without
    error and the method is found, bound to the right object, callable. -/
theorem walkX_complete (sk : Skeleton) (hf : Faithful sk) (chk : Bool) (tt : TypeTable) (hn : NamesNodup tt)
    (hmn : MethodsNodup tt) {v : Val} {segs : List String} {m : String} {n : Nat} {recv : Option Nat}
    (h : ExposedG chk tt v segs m n recv) :
    ∀ (x : RV), x.v = v → wfVal tt v = true → x.sticky = false → (segs = [] → x.embed = false) →
      ∃ cur, walkX sk chk tt (some x) segs = .at cur ∧
        methodByName tt cur m = .found ⟨recv, m, n, false, false⟩ := by
  induction h with
  | method hm =>
    rintro x rfl _ hs he
    exact ⟨some x, rfl, by simpa [hs, he] using methodByName_complete tt hmn x _ _ _ hm⟩
  | @field v T inst fs f p v' fd segs m n recv has hsel hselect hexp _ ih =>
    rintro x rfl hw hs _
    have htf := (typeFieldByName_iff tt hn T f p).mpr hsel
    rw [walkX_step sk hf chk tt hn x hw]
    simp only [has, htf, hselect, hs]
    have hchk : (chk && (false || !fd.exported)) = false := by
      rcases hexp with h | ⟨h, _⟩ <;> simp [h]
    simp only [hchk, Bool.false_eq_true, if_false]
    refine ih _ rfl (wf_step hn hw has htf hselect) ?_ ?_ <;>
      rcases hexp with h | ⟨_, h, h'⟩ <;> simp_all

theorem ExposedG.mono {b b' : Bool} (hb : b' = true → b = true) {tt : TypeTable} {v : Val} {segs : List String}
    {m : String} {n : Nat} {recv : Option Nat} (h : ExposedG b tt v segs m n recv) : ExposedG b' tt v segs m n recv := by
  induction h with
  | method hm => exact .method hm
  | field h1 h2 h3 h4 _ ih =>
    refine .field h1 h2 h3 ?_ ih
    rcases h4 with h | ⟨h, h5, h6⟩
    · exact .inl h
    · exact .inr ⟨by cases b' <;> simp_all, h5, h6⟩

def Walk.Safe : Walk → Prop
  | .panic w => w = msgNilEmb
  | .at cur => ∃ c, cur = some c
  | .err _ => True

theorem walkX_safe (sk : Skeleton) (hf : Faithful sk) (chk : Bool) (tt : TypeTable) (hn : NamesNodup tt) :
    ∀ (segs : List String) (x : RV), wfVal tt x.v = true → (walkX sk chk tt (some x) segs).Safe
  | [], x, _ => ⟨x, rfl⟩
  | f :: rest, x, hw => by
    rw [walkX_step sk hf chk tt hn x hw]
    split
    case h_2 => trivial
    next T inst fs has =>
    split
    · trivial
    next p htf =>
    split
    · exact rfl
    next v' fd hs =>
    split
    · trivial
    · exact walkX_safe sk hf chk tt hn rest _ (wf_step hn hw has htf hs)


/-- what the theorems take from `WFShape` -/
theorem WFShape.parts {tt : TypeTable} {root : Option Val} (h : WFShape tt root) :
    NamesNodup tt ∧ MethodsNodup tt ∧ ∀ v, root = some v → wfVal tt v = true := by
  simp only [WFShape, wfShape, wfTable, Bool.and_eq_true, List.all_eq_true, decide_eq_true_eq] at h
  refine ⟨fun T => ?_, fun v => ?_, ?_⟩
  · unfold structFields
    split
    · next htt => exact (h.1 _ (List.mem_of_getElem? htt)).1
    · exact List.nodup_nil
  · cases v <;> simp only [declaredMethods] <;> split <;>
      first | exact List.nodup_nil | exact (h.1 _ (List.mem_of_getElem? ‹_›)).2
  · rintro v rfl
    simp only [Bool.and_eq_true] at h
    exact h.2.2

theorem pathParts_eq (sk : Skeleton) (hf : Faithful sk) (path : String) :
    pathParts sk path = (splitOnDot path.toList).map String.ofList := by
  simp [pathParts, hf.split]

theorem pathParts_joinPath (sk : Skeleton) (hf : Faithful sk) (l : List String) (hne : l ≠ [])
    (hd : ∀ s ∈ l, '.' ∉ s.toList) : pathParts sk (joinPath l) = l := by
  rw [pathParts_eq sk hf, splitOnDot_joinPath l hne hd]
  simp [List.map_map, Function.comp_def, String.ofList_toList]

theorem lookupBody_eq (sk : Skeleton) (hf : Faithful sk) (chk : Bool) (tt : TypeTable) (root : Option Val)
    (path : String) :
    lookupBody sk chk tt root path =
      if pathParts sk path == [""] then .err errEmptyPath
      else match walkX sk chk tt (rootValue root) (pathParts sk path).dropLast with
        | .err e => .err e
        | .panic p => .panic p
        | .at cur =>
          match methodByName tt cur ((pathParts sk path).getLast?.getD "") with
          | .panic p => .panic p
          | .invalid => .err errNonFunc
          | .found m => .func m := by
  simp only [lookupBody, hf.empty, hf.walks, hf.mbn, hf.nonFunc, Bool.true_and, if_true]
  rfl

/-- below a nil root there is nothing: the walk rejects a dotted path and leaves a plain name to `MethodByName` on the
    zero Value, which panics -/
theorem walkX_none (sk : Skeleton) (hf : Faithful sk) (chk : Bool) (tt : TypeTable) (segs : List String) :
    walkX sk chk tt none segs = if segs = [] then .at none else .err errNonStruct := by
  cases segs with
  | nil => rfl
  | cons f rest => rw [walkX_cons sk hf]; rfl

theorem lookupX_func_iff_body (sk : Skeleton) (chk : Bool) (tt : TypeTable) (root : Option Val) (path : String)
    (mv : MethodVal) : lookupX sk chk tt root path = .func mv ↔ lookupBody sk chk tt root path = .func mv := by
  unfold lookupX
  split
  · next h => rw [h]; split <;> simp
  · rfl

/-- **The lookup decides exposure.**  On a well-formed shape it returns a method value that `Call`
    accepts exactly for the paths exposed in the sense it checks (`chk`: strict or lax). -/
theorem lookupX_func_iff (sk : Skeleton) (hf : Faithful sk) (chk : Bool) (tt : TypeTable) (root : Option Val)
    (hwf : WFShape tt root) (path m : String) (n : Nat) (recv : Option Nat) :
    lookupX sk chk tt root path = .func ⟨recv, m, n, false, false⟩ ↔
      ∃ segs, pathParts sk path = segs ++ [m] ∧ segs ++ [m] ≠ [""] ∧ ExposedN chk tt root segs m n recv := by
  obtain ⟨hn, hmn, hwv⟩ := hwf.parts
  obtain h0 | ⟨segs, last, hp⟩ := List.eq_nil_or_concat (pathParts sk path)
  · simp [pathParts_eq sk hf, splitOnDot_ne_nil] at h0
  simp only [lookupX_func_iff_body, lookupBody_eq sk hf, hp, List.concat_eq_append, List.dropLast_concat,
    List.getLast?_concat, Option.getD_some, List.append_singleton_inj]
  -- → is `walkX_sound` from the root (a nil root yields no method value); ← is `walkX_complete`
  constructor
  · intro h
    split at h
    · cases h
    next hne =>
    cases root with
    | none =>
      rw [rootValue, Option.map_none, walkX_none sk hf] at h
      by_cases hd : segs = [] <;> simp [hd, methodByName] at h
    | some v =>
      split at h <;> try cases h
      next cur hwalk =>
      split at h <;> cases h
      next hm =>
      obtain ⟨rfl, _, _, hexp⟩ := walkX_sound sk hf chk tt hn _ _ rfl rfl _ ⟨v, false, false⟩ _ (hwv v rfl) hwalk hm
      exact ⟨segs, ⟨rfl, rfl⟩, by simpa using hne, v, rfl, hexp⟩
  · rintro ⟨_, ⟨rfl, rfl⟩, hne, v, rfl, hexp⟩
    obtain ⟨cur, hw, hmeth⟩ := walkX_complete sk hf chk tt hn hmn hexp ⟨v, false, false⟩ rfl (hwv v rfl) rfl
      (fun _ => rfl)
    simp [hne, rootValue, hw, hmeth]

def Resolution.ofRecv : Option Nat → String → Resolution
  | some i, m => .runs i m
  | none, m => .runsNil m

/-- `utils.Call` invokes exactly the method values that are neither read-only nor unexported; on the
    others `Call` panics -/
theorem callMethod_eq (sk : Skeleton) (mv : MethodVal) :
    callMethod sk mv = if mv.ro || mv.unexpIface then callPanic sk (if mv.ro then errCallRO else errCallUnexp)
      else .ofRecv mv.recv mv.name := by
  obtain ⟨recv, name, numIn, ro, ui⟩ := mv
  cases ro <;> cases ui <;> cases recv <;> rfl

theorem ofRecv_inj {r r' : Option Nat} {n n' : String} :
    Resolution.ofRecv r n = .ofRecv r' n' ↔ r = r' ∧ n = n' := by
  cases r <;> cases r' <;> simp [Resolution.ofRecv]

theorem panic_ne_call (sk : Skeleton) (recv : Option Nat) (m w : String) :
    resolverPanic sk w ≠ .ofRecv recv m ∧ callPanic sk w ≠ .ofRecv recv m := by
  unfold resolverPanic callPanic
  cases recv <;> constructor <;> split <;> simp [Resolution.ofRecv]

theorem resolveX_eq (sk : Skeleton) (hf : Faithful sk) (chk : Bool) (tt : TypeTable) (root : Option Val)
    (path : String) (nargs : Nat) :
    resolveX sk chk tt root path nargs =
      match lookupX sk chk tt root path with
      | .panic p => resolverPanic sk p
      | .func m => if m.numIn != nargs + 1 then .rejected errArgCount else callMethod sk m
      | .zero => resolverPanic sk "reflect: call of reflect.Value.Type on zero Value"
      | .err e =>
        if sk.lkClosureManagerMethods.contains path then
          if closureEntryNumIn != nargs + 1 then .rejected errArgCount else .closureEntry
        else .rejected e := by
  simp only [resolveX, argCheck, hf.argCount, hf.fallback, hf.fallbackNonFunc, if_true]
  rfl

/-- A request ends in a call exactly when the lookup returns a method value of matching arity that
    `Call` accepts; its receiver and name are what runs. -/
theorem resolveX_call_iff (sk : Skeleton) (hf : Faithful sk) (chk : Bool) (tt : TypeTable) (root : Option Val)
    (path : String) (nargs : Nat) (recv : Option Nat) (m : String) :
    resolveX sk chk tt root path nargs = .ofRecv recv m ↔
      lookupX sk chk tt root path = .func ⟨recv, m, nargs + 1, false, false⟩ := by
  rw [resolveX_eq sk hf]
  generalize lookupX sk chk tt root path = L
  cases L with
  | panic p => simp [(panic_ne_call sk recv m _).1]
  | zero => simp [(panic_ne_call sk recv m _).1]
  | err e => cases recv <;> simp only [Resolution.ofRecv] <;> split <;> (try split) <;> simp
  | func mv =>
    obtain ⟨r, name, numIn, ro, ui⟩ := mv
    simp only [callMethod_eq, LkRes.func.injEq, MethodVal.mk.injEq]
    by_cases hn : numIn = nargs + 1
    · cases ro <;> cases ui <;> simp [hn, ofRecv_inj, (panic_ne_call sk recv m _).2]
    · cases recv <;> simp [Resolution.ofRecv, hn]

theorem ExposedN.mono {b b' : Bool} (hb : b' = true → b = true) {tt : TypeTable} {root : Option Val}
    {segs : List String} {m : String} {n : Nat} {recv : Option Nat} (h : ExposedN b tt root segs m n recv) :
    ExposedN b' tt root segs m n recv := by
  obtain ⟨v, hv, he⟩ := h
  exact ⟨v, hv, he.mono hb⟩

/-- SOUNDNESS and COMPLETENESS (general form).  On a well-formed shape a request runs method `m` on
    `recv` if and only if its name splits into a path that is exposed — strictly if the walk rejects
    unexported names (`chk`), laxly otherwise — and ends in `m`, of the arity sent. -/
theorem resolveX_call_exposed (sk : Skeleton) (hf : Faithful sk) (chk : Bool) (tt : TypeTable) (root : Option Val)
    (hwf : WFShape tt root) (path : String) (nargs : Nat) (recv : Option Nat) (m : String) :
    resolveX sk chk tt root path nargs = .ofRecv recv m ↔
      ∃ segs, pathParts sk path = segs ++ [m] ∧ segs ++ [m] ≠ [""] ∧ ExposedN chk tt root segs m (nargs + 1) recv :=
  (resolveX_call_iff sk hf chk tt root path nargs recv m).trans
    (lookupX_func_iff sk hf chk tt root hwf path m (nargs + 1) recv)

/-- SOUNDNESS (general form), with the name joined back from its parts -/
theorem resolveX_call_sound (sk : Skeleton) (hf : Faithful sk) (chk : Bool) (tt : TypeTable) (root : Option Val)
    (hwf : WFShape tt root) (path : String) (nargs : Nat) (recv : Option Nat) (m : String)
    (h : resolveX sk chk tt root path nargs = .ofRecv recv m) :
    ∃ segs n, path = joinPath (segs ++ [m]) ∧ ExposedN chk tt root segs m n recv ∧ nargs + 1 = n := by
  obtain ⟨segs, hp, _, he⟩ := (resolveX_call_exposed sk hf chk tt root hwf path nargs recv m).mp h
  exact ⟨segs, _, by rw [← hp, pathParts_eq sk hf, joinPath_pathParts], he, rfl⟩

/-- COMPLETENESS (general form), for the dot-join of dot-free names -/
theorem resolveX_complete (sk : Skeleton) (hf : Faithful sk) (chk : Bool) (tt : TypeTable) (root : Option Val)
    (hwf : WFShape tt root) (segs : List String) (m : String) (nargs : Nat) (recv : Option Nat)
    (he : ExposedN chk tt root segs m (nargs + 1) recv) (hd : ∀ s ∈ segs ++ [m], '.' ∉ s.toList) (hm : m ≠ "") :
    resolveX sk chk tt root (joinPath (segs ++ [m])) nargs = .ofRecv recv m :=
  (resolveX_call_exposed sk hf chk tt root hwf _ nargs recv m).mpr
    ⟨segs, pathParts_joinPath sk hf _ (by simp) hd, by cases segs <;> simp [hm], he⟩

/-- The only callable that is not a method of the exposed object graph: the closure entry point,
    reached only when the lookup on the object failed, by its exact name, with two arguments. -/
theorem resolveX_closureEntry (sk : Skeleton) (hf : Faithful sk) (chk : Bool) (tt : TypeTable)
    (root : Option Val) (path : String) (nargs : Nat)
    (h : resolveX sk chk tt root path nargs = .closureEntry) :
    (∃ e, lookupX sk chk tt root path = .err e) ∧ path ∈ sk.lkClosureManagerMethods ∧ nargs = 2 := by
  rw [resolveX_eq sk hf] at h
  cases hl : lookupX sk chk tt root path with
  | panic p => simp only [hl, resolverPanic] at h; split at h <;> cases h
  | zero => simp only [hl, resolverPanic] at h; split at h <;> cases h
  | func mv =>
    simp only [hl, callMethod_eq, callPanic] at h
    split at h
    · cases h
    split at h
    · split at h <;> cases h
    · cases hr : mv.recv <;> rw [hr] at h <;> cases h
  | err e =>
    simp only [hl] at h
    split at h
    · next hc =>
      split at h
      · cases h
      · next hne => exact ⟨⟨e, rfl⟩, by simpa using hc, by simpa [closureEntryNumIn] using hne⟩
    · cases h

/-- the facts under which no request can take the process down during resolution -/
structure Recovering (sk : Skeleton) : Prop where
  call : sk.reqCallViaUtilsCall = true ∧ sk.ucRecovers = true
  resolver : sk.reqResolverRecovers = true ∨
    (sk.lkRecoversPanics = true ∧ sk.lkRejectsNonFunc = true ∧ sk.lkArgCountChecked = true ∧
      (sk.lkFallbackIsClosureManager = true → sk.lkFallbackRejectsNonFunc = true))

theorem lookupX_panic {sk : Skeleton} {chk : Bool} {tt : TypeTable} {root : Option Val} {path w : String}
    (h : lookupX sk chk tt root path = .panic w) :
    sk.lkRecoversPanics = false ∧ lookupBody sk chk tt root path = .panic w := by
  unfold lookupX at h
  split at h
  · next hb => split at h <;> cases h; exact ⟨Bool.eq_false_iff.mpr ‹_›, hb⟩
  · next hnp => exact absurd h (hnp w)

theorem lookupX_ne_zero (sk : Skeleton) (h : sk.lkRejectsNonFunc = true) (chk : Bool) (tt : TypeTable)
    (root : Option Val) (path : String) : lookupX sk chk tt root path ≠ .zero := by
  unfold lookupX lookupBody
  simp only [h, if_true]
  intro hc
  repeat' split at hc
  all_goals cases hc

theorem callMethod_ne_crash (sk : Skeleton) (h : sk.reqCallViaUtilsCall = true ∧ sk.ucRecovers = true)
    (mv : MethodVal) (w : String) : callMethod sk mv ≠ .crash w := by
  rw [callMethod_eq, callPanic, h.1, h.2]
  split
  · simp
  · cases mv.recv <;> simp [Resolution.ofRecv]

/-- A crash of the resolution is a panic that `utils.Call` let through, or one raised in the
    un-recovered resolver goroutine: by the lookup, by `Type()` on the zero Value it returned, by
    `req.Args[i]` without the count check, or by `Type()` on the fallback's zero Value. -/
theorem resolveX_crash {sk : Skeleton} {chk : Bool} {tt : TypeTable} {root : Option Val} {path : String}
    {nargs : Nat} {w : String} (h : resolveX sk chk tt root path nargs = .crash w) :
    (∃ mv, callMethod sk mv = .crash w) ∨ sk.reqResolverRecovers = false ∧
      (lookupX sk chk tt root path = .panic w ∨ lookupX sk chk tt root path = .zero ∨
        sk.lkArgCountChecked = false ∨
        sk.lkFallbackIsClosureManager = true ∧ sk.lkFallbackRejectsNonFunc = false) := by
  have hp : ∀ p, resolverPanic sk p = .crash w → sk.reqResolverRecovers = false ∧ p = w := by
    intro p h
    unfold resolverPanic at h
    split at h <;> cases h
    exact ⟨Bool.eq_false_iff.mpr ‹_›, rfl⟩
  have ha : ∀ n k, argCheck sk n nargs k = .crash w →
      k = .crash w ∨ sk.reqResolverRecovers = false ∧ sk.lkArgCountChecked = false := by
    intro n k h
    unfold argCheck at h
    split at h
    · split at h
      · cases h
      · exact .inl h
    · next hc =>
      split at h
      · exact .inr ⟨(hp _ h).1, Bool.eq_false_iff.mpr hc⟩
      · exact .inl h
  unfold resolveX at h
  split at h
  · next hl => obtain ⟨h0, rfl⟩ := hp _ h; exact .inr ⟨h0, .inl hl⟩
  · next mv _ =>
    rcases ha _ _ h with h | ⟨h0, h1⟩
    · exact .inl ⟨mv, h⟩
    · exact .inr ⟨h0, .inr (.inr (.inl h1))⟩
  · next hl => exact .inr ⟨(hp _ h).1, .inr (.inl hl)⟩
  · split at h
    · next hfb =>
      split at h
      · rcases ha _ _ h with h | ⟨h0, h1⟩
        · cases h
        · exact .inr ⟨h0, .inr (.inr (.inl h1))⟩
      · split at h
        · cases h
        · next hnf => exact .inr ⟨(hp _ h).1, .inr (.inr (.inr ⟨hfb, Bool.eq_false_iff.mpr hnf⟩))⟩
    · cases h

/-- C06 (resolution part), general form: with a recovering resolver no request crashes the process. -/
theorem resolveX_no_crash (sk : Skeleton) (hr : Recovering sk) (chk : Bool) (tt : TypeTable)
    (root : Option Val) (path : String) (nargs : Nat) (w : String) :
    resolveX sk chk tt root path nargs ≠ .crash w := by
  intro hc
  rcases resolveX_crash hc with ⟨mv, h⟩ | ⟨h0, h⟩
  · exact callMethod_ne_crash sk hr.call mv w h
  rcases hr.resolver with h' | ⟨h1, h2, h3, h4⟩
  · rw [h'] at h0; cases h0
  rcases h with h | h | h | ⟨h, h'⟩
  · rw [(lookupX_panic h).1] at h1; cases h1
  · exact lookupX_ne_zero sk h2 chk tt root path h
  · rw [h3] at h; cases h
  · rw [h4 h] at h'; cases h'

/-- Every panic of the lookup on a well-formed shape is one of three: `MethodByName` on the zero
    Value (exactly when the registry's local object is nil), `Method` on a nil interface value,
    indirection through a nil embedded pointer. -/
theorem lookupBody_panic_classes (sk : Skeleton) (hf : Faithful sk) (chk : Bool) (tt : TypeTable)
    (root : Option Val) (hwf : WFShape tt root) (path w : String)
    (h : lookupBody sk chk tt root path = .panic w) :
    (root = none ∧ w = msgZeroMeth) ∨ (root ≠ none ∧ (w = msgNilIface ∨ w = msgNilEmb)) := by
  obtain ⟨hn, -, hwv⟩ := hwf.parts
  rw [lookupBody_eq sk hf] at h
  split at h
  · cases h
  cases root with
  | none =>
    rw [rootValue, Option.map_none, walkX_none sk hf] at h
    by_cases hd : (pathParts sk path).dropLast = [] <;> simp [hd, methodByName] at h
    exact .inl ⟨rfl, h.symm⟩
  | some v =>
    have hs := walkX_safe sk hf chk tt hn (pathParts sk path).dropLast ⟨v, false, false⟩ (hwv v rfl)
    rw [rootValue, Option.map_some] at h
    refine .inr ⟨by simp, ?_⟩
    split at h
    · cases h
    · next hw => cases h; rw [hw] at hs; exact .inr hs
    · next hw =>
      rw [hw] at hs
      obtain ⟨c, rfl⟩ := hs
      split at h <;> cases h
      next hm => exact .inl (methodByName_panic tt c _ _ hm)

/-- The crashes of the resolution (un-recovered resolver, recovering `utils.Call`) on a
    well-formed shape are exactly the three panic classes of the lookup. -/
theorem resolveX_crash_classes (sk : Skeleton) (hf : Faithful sk)
    (hcall : sk.reqCallViaUtilsCall = true ∧ sk.ucRecovers = true) (chk : Bool) (tt : TypeTable)
    (root : Option Val) (hwf : WFShape tt root) (path : String) (nargs : Nat) (w : String)
    (h : resolveX sk chk tt root path nargs = .crash w) :
    (root = none ∧ w = msgZeroMeth) ∨ (root ≠ none ∧ (w = msgNilIface ∨ w = msgNilEmb)) := by
  rcases resolveX_crash h with ⟨mv, h⟩ | ⟨_, h | h | h | ⟨_, h⟩⟩
  · exact absurd h (callMethod_ne_crash sk hcall mv w)
  · exact lookupBody_panic_classes sk hf chk tt root hwf path w (lookupX_panic h).2
  · exact absurd h (lookupX_ne_zero sk hf.nonFunc chk tt root path)
  · rw [hf.argCount] at h; cases h
  · rw [hf.fallbackNonFunc] at h; cases h

end Panrpc.Lk
