/-
  Lemmas/LookupCurrent.lean — the lookup's statements are all present in the current and in the
  pinned source (`by decide` on the regenerated skeleton); shared by Props/C06.lean and Props/C07.lean.
-/
import Panrpc.Lemmas.Lookup
import Panrpc.Generated.Current
import Panrpc.Pinned

namespace Panrpc.Lk

theorem cur_faithful : Faithful Skeleton.current := by constructor <;> decide

theorem pinned_faithful : Faithful Skeleton.pinned := by constructor <;> decide

theorem cur_call_recovers : Skeleton.current.reqCallViaUtilsCall = true ∧ Skeleton.current.ucRecovers = true := by constructor <;> decide

end Panrpc.Lk
