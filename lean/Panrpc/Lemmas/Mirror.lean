/-
  Lemmas/Mirror.lean — the local object that MIRRORS a remote definition, for the composition of
  P2 (Model/RemoteDef.lean: which stubs `Link` installs, and the function string each sends)
  with P0/P1 (Model/Reflect.lean, Model/Lookup.lean: what a function string resolves to).

  `mirror fs : TypeTable × Val` — for a remote struct type with fields `fs`:
    * every nested struct field `N struct{…}` becomes a by-value, non-embedded struct field `N`
      (exported iff the remote one is) whose type is a table row of its own;
    * every func field `F func(ctx, a…) (…, error)` at path `P` becomes a method `F` (exported iff
      the field is, same parameter count) in the method set of the struct at `P`;
    * other fields are dropped (the walk ignores them);
    * struct nodes are numbered in pre-order: node `k` has table row `k` and IS object `k`
      (`mirror_insts`: the identities are `0, 1, …`, pairwise distinct).
  (Every nested struct gets a row of its own even if two are structurally equal; no field is
  embedded, so reflect's promotion rules — the only place where type identity matters in P0 — do
  not come into play.)

  For every `fs` whose sibling names are distinct at every level (`WFDef`) the mirror is a well-formed
  shape and every stub path is an exposed path of it, bound to the object at that path.
  The property theorem is `Compose.C18_naming_agrees_with_lookup` (Props/Compose.lean).
-/
import Panrpc.Lemmas.RemoteDef
import Panrpc.Lemmas.Lookup

namespace Panrpc.Compose
open Rw (Field Sig)
open Lk (TypeTable TypeDecl FieldDecl MethodDecl Val)

def fname : Field → String
  | .func n _ _ => n
  | .struct n _ _ => n
  | .other n _ => n

mutual
/-- number of struct nodes in (the mirror of) a field / a field list -/
def size : Field → Nat
  | .struct _ _ sub => 1 + sizeL sub
  | _ => 0
def sizeL : List Field → Nat
  | [] => 0
  | f :: fs => size f + sizeL fs
end

/-- a func field `F func(ctx, a…) (…, error)` is mirrored by the method `F(ctx, a…) (…, error)` -/
def methF : Field → List MethodDecl
  | .func n ex sig => [⟨n, ex, sig.numIn⟩]
  | _ => []

def meths (fs : List Field) : List MethodDecl := fs.flatMap methF

/-- a nested struct field is mirrored by a by-value struct field of the same name (not embedded)
    whose type is the table row `b` -/
def declF (b : Nat) : Field → List FieldDecl
  | .struct n ex _ => [⟨n, ex, false, b⟩]
  | _ => []

def decls (b : Nat) : List Field → List FieldDecl
  | [] => []
  | f :: fs => declF b f ++ decls (b + size f) fs

mutual
/-- the table rows of the struct nodes of a field, in pre-order, the first one at index `b` -/
def rowsF (b : Nat) : Field → List TypeDecl
  | .struct _ _ sub => .struct (decls (b + 1) sub) (meths sub) :: rowsL (b + 1) sub
  | .func _ _ _ => []
  | .other _ _ => []
def rowsL (b : Nat) : List Field → List TypeDecl
  | [] => []
  | f :: fs => rowsF b f ++ rowsL (b + size f) fs
end

mutual
/-- the value tree: the struct node whose row is `b` is the object with identity `b` -/
def valsF (b : Nat) : Field → List Val
  | .struct _ _ sub => [.struct b b (valsL (b + 1) sub)]
  | .func _ _ _ => []
  | .other _ _ => []
def valsL (b : Nat) : List Field → List Val
  | [] => []
  | f :: fs => valsF b f ++ valsL (b + size f) fs
end

/-- The local object that mirrors remote definition `fs`: type table and root value. -/
def mirror (fs : List Field) : TypeTable × Val :=
  (.struct (decls 1 fs) (meths fs) :: rowsL 1 fs, .struct 0 0 (valsL 1 fs))

/-- the struct field named `m` of a field list whose first struct node has index `b` -/
def findStruct (b : Nat) : List Field → String → Option (Nat × List Field)
  | [], _ => none
  | .struct n _ sub :: fs, m => if n = m then some (b, sub) else findStruct (b + 1 + sizeL sub) fs m
  | .func _ _ _ :: fs, m => findStruct b fs m
  | .other _ _ :: fs, m => findStruct b fs m

/-- identity of the (sub-)object of the mirror at nested path `P` below the node `c` -/
def instAt (c : Nat) (fs : List Field) : List String → Option Nat
  | [] => some c
  | n :: P =>
    match findStruct (c + 1) fs n with
    | some (c', sub) => instAt c' sub P
    | none => none


mutual
theorem rowsF_length : ∀ (f : Field) (b : Nat), (rowsF b f).length = size f
  | .struct _ _ sub, b => by simp [rowsF, size, rowsL_length sub (b + 1)]; omega
  | .func .., _ | .other .., _ => by simp [rowsF, size]
theorem rowsL_length : ∀ (fs : List Field) (b : Nat), (rowsL b fs).length = sizeL fs
  | [], _ => by simp [rowsL, sizeL]
  | f :: fs, b => by simp [rowsL, sizeL, rowsF_length f b, rowsL_length fs (b + size f)]
end

/-- the rows `rs` occupy the indices `b, b+1, …` of table `tt` -/
def At (tt : TypeTable) (b : Nat) (rs : List TypeDecl) : Prop :=
  ∃ pre post, tt = pre ++ rs ++ post ∧ pre.length = b

theorem At.append {tt : TypeTable} {b : Nat} {r1 r2 : List TypeDecl} (h : At tt b (r1 ++ r2)) :
    At tt b r1 ∧ At tt (b + r1.length) r2 := by
  obtain ⟨pre, post, rfl, hl⟩ := h
  exact ⟨⟨pre, r2 ++ post, by simp, hl⟩, ⟨pre ++ r1, post, by simp, by simp [hl]⟩⟩

theorem At.cons {tt : TypeTable} {b : Nat} {x : TypeDecl} {r : List TypeDecl} (h : At tt b (x :: r)) :
    tt[b]? = some x ∧ At tt (b + 1) r := by
  obtain ⟨pre, post, rfl, hl⟩ := h
  refine ⟨?_, ⟨pre ++ [x], post, by simp, by simp [hl]⟩⟩
  subst hl
  simp

theorem findStruct_cons_ne (b : Nat) (f : Field) (fs : List Field) (n : String) (h : fname f ≠ n) :
    findStruct b (f :: fs) n = findStruct (b + size f) fs n := by
  cases f with
  | struct n' ex sub => simp only [findStruct, show n' ≠ n from h, if_false, size]; congr 1; omega
  | func | other => simp [findStruct, size]

/-- the struct field `n` of a mirrored field list: its declaration, its value, its table row, the
    rows of its own fields — all at the same position / index -/
theorem find_struct {tt : TypeTable} {n : String} {ex : Bool} {sub fs : List Field} {b : Nat}
    (hat : At tt b (rowsL b fs)) (hnd : (fs.map fname).Nodup) (hm : Field.struct n ex sub ∈ fs) :
    ∃ (i c : Nat), (decls b fs)[i]? = some (FieldDecl.mk n ex false c) ∧
      (valsL b fs)[i]? = some (Val.struct c c (valsL (c + 1) sub)) ∧
      tt[c]? = some (.struct (decls (c + 1) sub) (meths sub)) ∧ At tt (c + 1) (rowsL (c + 1) sub) ∧
      findStruct b fs n = some (c, sub) := by
  induction fs generalizing b with
  | nil => simp at hm
  | cons f fs ih =>
    simp only [List.map_cons, List.nodup_cons] at hnd
    simp only [rowsL] at hat
    obtain ⟨hat1, hat2⟩ := hat.append
    rw [rowsF_length] at hat2
    rcases List.mem_cons.mp hm with rfl | hm
    · simp only [rowsF] at hat1
      obtain ⟨h1, h2⟩ := hat1.cons
      exact ⟨0, b, by simp [decls, declF], by simp [valsL, valsF], h1, h2, by simp [findStruct]⟩
    · obtain ⟨i, c, h1, h2, h3, h4, h5⟩ := ih hat2 hnd.2 hm
      have hne : fname f ≠ n := fun h0 => hnd.1 (h0 ▸ List.mem_map.mpr ⟨_, hm, rfl⟩)
      -- `f` contributes one declaration and one value if it is a struct field, none otherwise
      refine ⟨(declF b f).length + i, c, ?_, ?_, h3, h4, (findStruct_cons_ne b f fs n hne).trans h5⟩
      · rw [decls, List.getElem?_append_right (Nat.le_add_right _ _), Nat.add_sub_cancel_left]; exact h1
      · rw [valsL, show (declF b f).length = (valsF b f).length by cases f <;> rfl,
          List.getElem?_append_right (Nat.le_add_right _ _), Nat.add_sub_cancel_left]; exact h2

mutual
def wfDefF : Field → Bool
  | .struct _ _ sub => decide ((sub.map fname).Nodup) && wfDefL sub
  | .func _ _ _ => true
  | .other _ _ => true
def wfDefL : List Field → Bool
  | [] => true
  | f :: fs => wfDefF f && wfDefL fs
end

/-- Sibling field names are distinct, at every nesting level (true of every Go struct type that
    does not have several blank `_` fields; the modelling assumption of Model/RemoteDef.lean). -/
def WFDef (fs : List Field) : Prop := (fs.map fname).Nodup ∧ wfDefL fs = true

instance (fs : List Field) : Decidable (WFDef fs) := by unfold WFDef; infer_instance

theorem wfDef_mem {fs : List Field} {n : String} {ex : Bool} {sub : List Field}
    (hw : wfDefL fs = true) (hm : Field.struct n ex sub ∈ fs) : WFDef sub := by
  induction fs with
  | nil => simp at hm
  | cons f fs ih =>
    simp only [wfDefL, Bool.and_eq_true] at hw
    rcases List.mem_cons.mp hm with rfl | hm
    · simpa [wfDefF, WFDef] using hw.1
    · exact ih hw.2 hm

theorem decls_names (fs : List Field) (b : Nat) : ((decls b fs).map (·.name)).Sublist (fs.map fname) := by
  induction fs generalizing b with
  | nil => simp [decls]
  | cons f fs ih =>
    cases f with
    | struct n ex sub => simpa [decls, declF, fname] using (ih (b + size (Field.struct n ex sub))).cons_cons n
    | func n | other n => simpa [decls, declF, fname, size] using (ih b).cons n

theorem meths_names (fs : List Field) : ((meths fs).map (·.name)).Sublist (fs.map fname) := by
  induction fs with
  | nil => simp [meths]
  | cons f fs ih =>
    simp only [meths, List.flatMap_cons] at ih ⊢
    cases f with
    | func n => simpa [methF, fname] using ih.cons_cons n
    | struct n | other n => simpa [methF, fname] using ih.cons n

/-- what `wfTable` asks of one row -/
def rowOK (d : TypeDecl) : Bool :=
  decide ((Lk.declFields d).map (·.name)).Nodup && decide ((Lk.allMethods d).map (·.name)).Nodup

theorem rowOK_struct (sub : List Field) (b : Nat) (h : (sub.map fname).Nodup) :
    rowOK (.struct (decls b sub) (meths sub)) = true := by
  simp only [rowOK, Lk.declFields, Lk.allMethods, Bool.and_eq_true]
  exact ⟨decide_eq_true ((decls_names sub b).nodup h), decide_eq_true ((meths_names sub).nodup h)⟩

mutual
theorem rowsF_ok : ∀ (f : Field) (b : Nat), wfDefF f = true → ∀ r, r ∈ rowsF b f → rowOK r = true
  | .struct _ _ sub, b, hw, r, hr => by
    simp only [wfDefF, Bool.and_eq_true, decide_eq_true_eq] at hw
    simp only [rowsF, List.mem_cons] at hr
    rcases hr with rfl | hr
    · exact rowOK_struct sub (b + 1) hw.1
    · exact rowsL_ok sub (b + 1) hw.2 r hr
  | .func .., _, _, r, hr | .other .., _, _, r, hr => by simp [rowsF] at hr
theorem rowsL_ok : ∀ (fs : List Field) (b : Nat), wfDefL fs = true → ∀ r, r ∈ rowsL b fs → rowOK r = true
  | [], _, _, r, hr => by simp [rowsL] at hr
  | f :: fs, b, hw, r, hr => by
    simp only [wfDefL, Bool.and_eq_true] at hw
    simp only [rowsL, List.mem_append] at hr
    rcases hr with hr | hr
    · exact rowsF_ok f b hw.1 r hr
    · exact rowsL_ok fs (b + size f) hw.2 r hr
end

mutual
theorem valsF_wf (tt : TypeTable) : ∀ (f : Field) (b : Nat), At tt b (rowsF b f) →
    Lk.wfFields tt (declF b f) (valsF b f) = true
  | .struct _ _ sub, b, h => by
    simp only [rowsF] at h
    obtain ⟨h1, h2⟩ := h.cons
    have := valsL_wf tt sub (b + 1) h2
    simp [declF, valsF, Lk.wfFields, Lk.wfVal, Lk.Val.ty, h1, this]
  | .func .., _, _ | .other .., _, _ => by simp [declF, valsF, Lk.wfFields]
theorem valsL_wf (tt : TypeTable) : ∀ (fs : List Field) (b : Nat), At tt b (rowsL b fs) →
    Lk.wfFields tt (decls b fs) (valsL b fs) = true
  | [], _, _ => by simp [decls, valsL, Lk.wfFields]
  | f :: fs, b, h => by
    simp only [rowsL] at h
    obtain ⟨h1, h2⟩ := h.append
    rw [rowsF_length] at h2
    have ih1 := valsF_wf tt f b h1
    have ih2 := valsL_wf tt fs (b + size f) h2
    cases f with
    | struct n ex sub =>
      simp only [declF, valsF, Lk.wfFields, Bool.and_true] at ih1
      simp [decls, valsL, declF, valsF, Lk.wfFields, ih1, ih2]
    | func | other => simpa [decls, valsL, declF, valsF] using ih2
end

theorem mirror_at (fs : List Field) :
    (mirror fs).1[0]? = some (.struct (decls 1 fs) (meths fs)) ∧ At (mirror fs).1 1 (rowsL 1 fs) :=
  ⟨rfl, ⟨[.struct (decls 1 fs) (meths fs)], [], by simp [mirror], rfl⟩⟩

theorem mirror_wf (fs : List Field) (h : WFDef fs) : Lk.WFShape (mirror fs).1 (some (mirror fs).2) := by
  simp only [Lk.WFShape, Lk.wfShape, Bool.and_eq_true]
  refine ⟨?_, ?_⟩
  · simp only [Lk.wfTable, List.all_eq_true]
    intro d hd
    simp only [mirror, List.mem_cons] at hd
    rcases hd with rfl | hd
    · exact rowOK_struct fs 1 h.1
    · exact rowsL_ok fs 1 h.2 d hd
  · have := valsL_wf (mirror fs).1 fs 1 (mirror_at fs).2
    simp only [mirror] at this
    simp [mirror, Lk.Val.isIface, Lk.wfVal, this]

/-- `HasFunc fs P F sig`: following the exported struct fields `P` from the remote struct type `fs`
    leads to a struct with the exported func field `F` of signature `sig` — i.e. a stub is
    installed at path `P ++ [F]`. -/
inductive HasFunc : List Field → List String → String → Sig → Prop where
  | here {fs : List Field} {F : String} {sig : Sig} : Field.func F true sig ∈ fs → HasFunc fs [] F sig
  | down {fs : List Field} {n : String} {sub : List Field} {P : List String} {F : String} {sig : Sig} :
      Field.struct n true sub ∈ fs → HasFunc sub P F sig → HasFunc fs (n :: P) F sig

theorem HasFunc.mono {fs fs' : List Field} {P : List String} {F : String} {sig : Sig}
    (hsub : ∀ f ∈ fs, f ∈ fs') : HasFunc fs P F sig → HasFunc fs' P F sig
  | .here hm => .here (hsub _ hm)
  | .down hm h => .down (hsub _ hm) h

mutual
theorem funcsField_hasFunc (ro : Bool) : ∀ (f : Field) (x : Rw.FuncAt), x ∈ Rw.funcsField ro f →
    x.settable = true → ro = false ∧ ∃ P F, x.path = P ++ [F] ∧ HasFunc [f] P F x.sig
  | .func n e s, x, hx, hs => by
    obtain rfl := List.mem_singleton.mp hx
    obtain ⟨h1, rfl⟩ : ro = false ∧ e = true := by simpa using hs
    exact ⟨h1, [], n, rfl, .here (by simp)⟩
  | .struct n e sub, x, hx, hs => by
    simp only [Rw.funcsField, List.mem_map] at hx
    obtain ⟨y, hy, rfl⟩ := hx
    obtain ⟨h1, P, F, hp, hh⟩ := funcs_hasFunc (ro || !e) sub y hy hs
    obtain ⟨hro, rfl⟩ : ro = false ∧ e = true := by simpa using h1
    exact ⟨hro, n :: P, F, by simp [hp], .down (by simp) hh⟩
  | .other _ _, x, hx, _ => by simp [Rw.funcsField] at hx
theorem funcs_hasFunc (ro : Bool) : ∀ (fs : List Field) (x : Rw.FuncAt), x ∈ Rw.funcs ro fs →
    x.settable = true → ro = false ∧ ∃ P F, x.path = P ++ [F] ∧ HasFunc fs P F x.sig
  | [], x, hx, _ => by simp [Rw.funcs] at hx
  | f :: fs, x, hx, hs => by
    simp only [Rw.funcs, List.mem_append] at hx
    rcases hx with hx | hx
    · obtain ⟨h1, P, F, hp, hh⟩ := funcsField_hasFunc ro f x hx hs
      exact ⟨h1, P, F, hp, hh.mono (by simp)⟩
    · obtain ⟨h1, P, F, hp, hh⟩ := funcs_hasFunc ro fs x hx hs
      exact ⟨h1, P, F, hp, hh.mono fun _ => List.mem_cons_of_mem _⟩
end

theorem selects_top (tt : TypeTable) (hn : Lk.NamesNodup tt) (T i : Nat) (fd : FieldDecl)
    (h : (Lk.structFields tt T)[i]? = some fd) (hne : fd.name ≠ "") : Lk.Selects tt T fd.name [i] :=
  ⟨hne, 0, Lk.fieldsAtDepth_zero_eq hn h, fun d' hd' => absurd hd' (Nat.not_lt_zero d')⟩

/-- the descent: in the mirror, the path `P` leads to the object `instAt … P`, whose method set
    has `F` with the func field's parameter count -/
theorem mirror_exposed (tt : TypeTable) (hn : Lk.NamesNodup tt) :
    ∀ {fs : List Field} {P : List String} {F : String} {sig : Sig}, HasFunc fs P F sig →
    ∀ (c : Nat), tt[c]? = some (.struct (decls (c + 1) fs) (meths fs)) → At tt (c + 1) (rowsL (c + 1) fs) →
      WFDef fs → (∀ n, n ∈ P → n ≠ "") →
      ∃ inst, instAt c fs P = some inst ∧
        Lk.ExposedG true tt (.struct c c (valsL (c + 1) fs)) P F sig.numIn (some inst) := by
  intro fs P F sig h
  induction h with
  | @here fs F sig hm =>
    intro c hrow _ _ _
    refine ⟨c, rfl, .method ⟨rfl, rfl, ⟨F, true, sig.numIn⟩, ?_, rfl, rfl, rfl⟩⟩
    simp only [Lk.declaredMethods, hrow, meths, List.mem_flatMap]
    exact ⟨_, hm, by simp [methF]⟩
  | @down fs n sub P F sig hm _ ih =>
    intro c hrow hat hwf hne
    obtain ⟨i, c', h1, h2, h3, h4, h5⟩ := find_struct hat hwf.1 hm
    obtain ⟨inst, hi, hexp⟩ := ih c' h3 h4 (wfDef_mem hwf.2 hm)
      (fun m hm' => hne m (List.mem_cons_of_mem _ hm'))
    refine ⟨inst, by simp only [instAt, h5]; exact hi, ?_⟩
    have hsf : Lk.structFields tt c = decls (c + 1) fs := by simp [Lk.structFields, hrow]
    refine .field (p := [i]) (fd := ⟨n, true, false, c'⟩) rfl ?_ ?_ (Or.inl rfl) hexp
    · exact selects_top tt hn c i ⟨n, true, false, c'⟩ (by rw [hsf]; exact h1) (hne n (by simp))
    · simp [Lk.Val.select, Lk.Val.fieldAt, hsf, h1, h2]

mutual
/-- the object identities in a value tree, in pre-order -/
def instsV : Val → List Nat
  | .struct _ i vs => i :: instsL vs
  | .ptr _ t => instsO t
  | .iface _ d => instsO d
  | .other _ i => [i]
def instsL : List Val → List Nat
  | [] => []
  | v :: vs => instsV v ++ instsL vs
def instsO : Option Val → List Nat
  | none => []
  | some v => instsV v
end

theorem instsL_append (a b : List Val) : instsL (a ++ b) = instsL a ++ instsL b := by
  induction a with
  | nil => simp [instsL]
  | cons v vs ih => simp [instsL, ih]

mutual
theorem valsF_insts : ∀ (f : Field) (b : Nat), instsL (valsF b f) = List.range' b (size f)
  | .struct _ _ sub, b => by
    simp only [valsF, instsL, instsV, valsL_insts sub (b + 1), size, List.append_nil]
    rw [Nat.add_comm 1, List.range'_succ]
  | .func .., _ | .other .., _ => by simp [valsF, instsL, size]
theorem valsL_insts : ∀ (fs : List Field) (b : Nat), instsL (valsL b fs) = List.range' b (sizeL fs)
  | [], _ => by simp [valsL, instsL, sizeL]
  | f :: fs, b => by
    simp only [valsL, instsL_append, valsF_insts f b, valsL_insts fs (b + size f), sizeL]
    rw [← List.range'_append_1]
end

theorem mirror_insts (fs : List Field) : instsV (mirror fs).2 = List.range (1 + sizeL fs) := by
  simp only [mirror, instsV, valsL_insts fs 1]
  rw [List.range_eq_range', Nat.add_comm 1, List.range'_succ]

end Panrpc.Compose
