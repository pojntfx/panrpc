/-
  Lemmas/Registry.lean — the source facts M4's theorems rest on, and the step function under
  them: M4 is a product of per-link machines coupled through a small shared part.  `Link.next`
  is the machine of one link, `shared` what an enabled action does to the rest, `step_next`
  says that this is all `step` does.  Locality (`step_own`, `step_other`) is read off it.
-/
import Panrpc.Model.Registry

namespace Panrpc.Rg

/-- The facts about `LinkMessage` / `ForRemotes` / the request handler that the life-cycle
    theorems need.  Each is a field of the regenerated `Skeleton`. -/
structure Facts (sk : Skeleton) : Prop where
  perLinkId      : sk.rgPerLinkRemoteId = true
  perLinkBc      : sk.rgPerLinkBroadcaster = true
  perLinkSlot    : sk.rgPerLinkFatalSlot = true
  perLinkRemote  : sk.rgPerLinkRemoteValue = true
  regAtomic      : sk.rgRegisterAtomic = true
  unregAtomic    : sk.rgUnregisterAtomic = true
  regConnect     : sk.rgRegistryConnectHook = true
  regDisconnect  : sk.rgRegistryDisconnectHook = true
  linkConnect    : sk.rgLinkConnectHook = true
  linkDisconnect : sk.rgLinkDisconnectHook = true
  unregDeferred  : sk.rgUnregisterDeferredAfterWait = true
  regBeforeLoops : sk.rgRegisterBeforeLoops = true
  waitsBoth      : sk.rgWaitsForBothLoops = true
  enumUnderLock  : sk.rgForRemotesUnderLock = true
  ctxCarriesId   : sk.reqCtxCarriesRemoteId = true
  reqExits       : sk.reqLoopExitsOnReadErr = true
  respExits      : sk.respLoopExitsOnReadErr = true

/-- what `setErr` of a link does to that link when the slot and the table are per link -/
def Link.fail (k : Link) : Link := { k with ended := true, closed := true, inflight := 0 }

@[simp, grind =] theorem fail_setup (k : Link) : k.fail.setup = k.setup := rfl
@[simp, grind =] theorem fail_id (k : Link) : k.fail.id = k.id := rfl
@[simp, grind =] theorem fail_reqLoop (k : Link) : k.fail.reqLoop = k.reqLoop := rfl
@[simp, grind =] theorem fail_respLoop (k : Link) : k.fail.respLoop = k.respLoop := rfl
@[simp, grind =] theorem fail_pendingReq (k : Link) : k.fail.pendingReq = k.pendingReq := rfl
@[simp, grind =] theorem fail_ctx (k : Link) : k.fail.ctxCancelled = k.ctxCancelled := rfl
@[simp, grind =] theorem fail_reads (k : Link) : k.fail.readsFail = k.readsFail := rfl
@[simp, grind =] theorem fail_ended (k : Link) : k.fail.ended = true := rfl
@[simp, grind =] theorem fail_closed (k : Link) : k.fail.closed = true := rfl
@[simp, grind =] theorem fail_inflight (k : Link) : k.fail.inflight = 0 := rfl

theorem setErrLinks_facts {sk : Skeleton} (h : Facts sk) (links : Nat → Link) (l : Nat) :
    setErrLinks sk links l = upd links l (links l).fail := by
  funext i
  by_cases hi : i = l
  · subst hi; simp [setErrLinks, upd, Link.fail]
  · simp [setErrLinks, upd, hi, h.perLinkBc, h.perLinkSlot]

theorem connectEvs_facts' {sk : Skeleton} (h : Facts sk) (l : Nat) :
    connectEvs sk l = fun i => [⟨.linkConnect, l, i⟩, ⟨.regConnect, l, i⟩] := by
  funext i; simp [connectEvs, h.regConnect, h.linkConnect]

theorem disconnectEvs_facts' {sk : Skeleton} (h : Facts sk) (l : Nat) :
    disconnectEvs sk l = fun i => [⟨.linkDisconnect, l, i⟩, ⟨.regDisconnect, l, i⟩] := by
  funext i; simp [disconnectEvs, h.regDisconnect, h.linkDisconnect]

/-- The own transition of link `l` (source facts substituted): what an action does to the link's
    component `k`; `none` = not enabled.  `n` is the id counter, read by the registration only. -/
def Link.next (w : Bool) (l n : Nat) (k : Link) : Op → Option Link
  | .linkStart => if k.setup = .absent then some { k with setup := .started } else none
  | .setupRegister =>
    if k.setup = .started then some { k with setup := .registered, id := some n } else none
  | .setupConnectHooks =>
    if k.setup = .inserted ∧ k.id.isSome = true then some { k with setup := .registered } else none
  | .loopsStart =>
    if k.setup = .registered then
      some { k with setup := .waiting,
                    reqLoop := if k.reqLoop = .notStarted then .reading else k.reqLoop,
                    respLoop := if k.respLoop = .notStarted then .reading else k.respLoop }
    else none
  | .reqRead =>
    if k.reqLoop = .reading ∧ k.readsFail = false then some { k with pendingReq := k.pendingReq + 1 }
    else none
  | .reqHandle => if 0 < k.pendingReq then some { k with pendingReq := k.pendingReq - 1 } else none
  | .reqReadFails =>
    if k.reqLoop = .reading ∧ (k.readsFail = true ∨ k.ctxCancelled = true) then
      some { k.fail with reqLoop := .exited }
    else none
  | .reqBadFrame =>
    if k.reqLoop = .reading ∧ k.readsFail = false then some { k.fail with reqLoop := .exited } else none
  | .respRead tgt =>
    if k.respLoop = .reading ∧ k.readsFail = false then
      match tgt with
      | none => some k
      | some t => if t = l ∧ 0 < k.inflight then some { k with inflight := k.inflight - 1 } else none
    else none
  | .respReadFails =>
    if k.respLoop = .reading ∧ (k.readsFail = true ∨ k.ctxCancelled = true) then
      some { k.fail with respLoop := .exited }
    else none
  | .respBadFrame =>
    if k.respLoop = .reading ∧ k.readsFail = false then some { k.fail with respLoop := .exited } else none
  | .setupLoopsDone =>
    if k.setup = .waiting ∧ k.reqLoop = .exited ∧ k.respLoop = .exited then
      some { k with setup := .loopsDone }
    else none
  | .setupUnregister =>
    if k.setup = .loopsDone ∧ k.id.isSome = true then some { k with setup := .unregistered } else none
  | .setupDisconnectHooks =>
    if k.setup = .deleted ∧ k.id.isSome = true then some { k with setup := .unregistered } else none
  | .callOn =>
    if k.id.isSome = true then
      some (if k.closed = false ∧ k.ctxCancelled = false then { k with inflight := k.inflight + 1 }
            else k.fail)
    else none
  | .callDone => if 0 < k.inflight then some { k with inflight := k.inflight - 1 } else none
  | .cancel => if k.setup ≠ .absent then some { k with ctxCancelled := true } else none
  | .ctxWatch => if k.setup ≠ .absent ∧ k.ctxCancelled = true ∧ w = true then some k.fail else none
  | .failReads => if k.setup ≠ .absent then some { k with readsFail := true } else none
  | .faultOn => if k.setup ≠ .absent then some k.fail else none

/-- What an enabled action of link `l`, whose component was `k`, does to the part of the state
    that the links share: the table, the id counter, the ghost logs.  No guards: every field of
    the result is a record field, so its projections reduce by `rfl` once the op is known. -/
def shared (l : Nat) (k : Link) (s : State) : Op → State
  | .linkStart => { s with lastImpl := l }
  | .setupRegister =>
    { s with remotes := upd s.remotes s.nextId (some l), nextId := s.nextId + 1,
             hookLog := ⟨.linkConnect, l, s.nextId⟩ :: ⟨.regConnect, l, s.nextId⟩ :: s.hookLog }
  | .setupConnectHooks =>
    { s with hookLog := expect .linkConnect l k.id ++ expect .regConnect l k.id ++ s.hookLog }
  | .setupUnregister =>
    { s with remotes := match k.id with | some i => upd s.remotes i none | none => s.remotes,
             hookLog := expect .linkDisconnect l k.id ++ expect .regDisconnect l k.id ++ s.hookLog }
  | .setupDisconnectHooks =>
    { s with hookLog := expect .linkDisconnect l k.id ++ expect .regDisconnect l k.id ++ s.hookLog }
  | .reqHandle => { s with invocations := ⟨l, k.id⟩ :: s.invocations }
  | .respRead tgt => { s with delivered := (tgt.map fun _ => ⟨l, l⟩).toList ++ s.delivered }
  | .callOn =>
    { s with written := if k.closed = false ∧ k.ctxCancelled = false then ⟨l, l, some l⟩ :: s.written
                        else s.written }
  | _ => s

theorem step_next {sk : Skeleton} (h : Facts sk) (s : State) (l : Nat) (op : Op) :
    step sk s ⟨l, op⟩ = ((s.links l).next sk.watcherCallsSetErr l s.nextId op).map fun k' =>
      shared l (s.links l) { s with links := upd s.links l k' } op := by
  cases op
  case respRead tgt =>
    simp only [step, Link.next, shared, h.perLinkBc]
    cases tgt with
    | none => split <;> simp [upd_self]
    | some t =>
      by_cases ht : t = l
      · subst ht; simp; (repeat' split) <;> simp_all
      · simp [ht]
  all_goals
    simp only [step, Link.next, shared, h.perLinkId, h.perLinkBc, h.perLinkRemote, h.regAtomic,
      h.unregAtomic, h.unregDeferred, h.regBeforeLoops, h.waitsBoth, h.ctxCarriesId, h.reqExits,
      h.respExits, setErrLinks_facts h, connectEvs_facts' h, disconnectEvs_facts' h, upd_upd, upd_same,
      List.cons_append, List.nil_append]
  all_goals (simp; try ((repeat' split) <;> simp_all [expect]))

theorem step_eq {sk : Skeleton} (hF : Facts sk) {s s' : State} {l : Nat} {op : Op}
    (hs : step sk s ⟨l, op⟩ = some s') :
    ∃ k', (s.links l).next sk.watcherCallsSetErr l s.nextId op = some k' ∧
      s' = shared l (s.links l) { s with links := upd s.links l k' } op := by
  rw [step_next hF, Option.map_eq_some_iff] at hs
  obtain ⟨k', h1, h2⟩ := hs
  exact ⟨k', h1, h2.symm⟩

/-- ops that touch the table, the id counter or the hook log -/
def Op.table : Op → Bool
  | .setupRegister | .setupConnectHooks | .setupUnregister | .setupDisconnectHooks => true
  | _ => false

theorem shared_links (l : Nat) (k : Link) (s : State) (op : Op) : (shared l k s op).links = s.links := by
  cases op <;> rfl

theorem shared_table (l : Nat) (k : Link) (s : State) {op : Op} (hop : op.table = false) :
    (shared l k s op).remotes = s.remotes ∧ (shared l k s op).nextId = s.nextId ∧
    (shared l k s op).hookLog = s.hookLog := by
  cases op <;> first | exact ⟨rfl, rfl, rfl⟩ | exact absurd hop (by decide)

theorem shared_nextId (l : Nat) (k : Link) (s : State) {op : Op} (hop : op ≠ .setupRegister) :
    (shared l k s op).nextId = s.nextId := by
  cases op <;> first | rfl | exact absurd rfl hop

theorem shared_hookLog_suffix (l : Nat) (k : Link) (s : State) (op : Op) :
    s.hookLog <:+ (shared l k s op).hookLog := by
  cases op <;> first
    | exact List.suffix_refl _
    | exact List.suffix_append _ _
    | exact List.suffix_append [_, _] _

theorem shared_ghost (l : Nat) (k : Link) (s : State) (op : Op) :
    (∀ v, v ∈ (shared l k s op).invocations → v ∈ s.invocations ∨ op = .reqHandle ∧ v = ⟨l, k.id⟩) ∧
    (∀ x, x ∈ (shared l k s op).written → x ∈ s.written ∨ x = ⟨l, l, some l⟩) ∧
    (∀ d, d ∈ (shared l k s op).delivered → d ∈ s.delivered ∨ d = ⟨l, l⟩) := by
  cases op <;> try exact ⟨fun _ => .inl, fun _ => .inl, fun _ => .inl⟩
  case reqHandle => simp +contextual [shared, or_comm]
  case respRead tgt => cases tgt <;> simp +contextual [shared, or_comm]
  case callOn => simp only [shared]; split <;> simp +contextual [or_comm]

theorem step_own {sk : Skeleton} (hF : Facts sk) (s : State) (l : Nat) (op : Op) :
    (step sk s ⟨l, op⟩).map (fun t => t.links l) =
      (s.links l).next sk.watcherCallsSetErr l s.nextId op := by
  rw [step_next hF, Option.map_map]
  simp only [Function.comp_def, shared_links, upd_same, Option.map_id']

theorem step_other {sk : Skeleton} (hF : Facts sk) {s s' : State} {l l' : Nat} {op : Op}
    (hs : step sk s ⟨l, op⟩ = some s') (hne : l' ≠ l) : s'.links l' = s.links l' := by
  obtain ⟨k', -, rfl⟩ := step_eq hF hs
  rw [shared_links]; exact upd_other _ _ _ _ hne

theorem next_nextId (w : Bool) (l n n' : Nat) (k : Link) (op : Op) :
    (op ≠ .setupRegister → k.next w l n op = k.next w l n' op) ∧
    (k.next w l n op).map Link.eraseId = (k.next w l n' op).map Link.eraseId := by
  cases op <;> first | exact ⟨fun _ => rfl, rfl⟩ | skip
  refine ⟨fun h => absurd rfl h, ?_⟩
  simp only [Link.next]; split <;> rfl

end Panrpc.Rg
