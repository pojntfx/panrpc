/-
  Lemmas/RegistryCurrent.lean — the source facts M4's theorems rest on, checked against the
  skeleton regenerated from /repo on this run.  Moving a hook out of the `remotesLock` region,
  dropping one, starting the loops before the registration, not waiting for both loops, running
  the removal before `wg.Wait()`, or sharing the id / remote value / pending-call table / fatal
  slot between links makes one of these `decide`s fail.
-/
import Panrpc.Lemmas.RegistryLife
import Panrpc.Generated.Current

namespace Panrpc.Rg

theorem cur_facts : Facts Skeleton.current := by constructor <;> decide

end Panrpc.Rg
