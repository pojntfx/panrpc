/-
  Lemmas/RegistryInv.lean — the invariants of M4.  Per link: how the setup goroutine's pc, the two
  loops' pcs, the `remoteID` local and the handler backlog constrain each other (`PcOk`).  Across
  links: the shared part of the state is a function of the links' components — ids are fresh and
  distinct, a table entry belongs to the link that inserted it exactly between its registration
  and its deferred removal, and the hook log restricted to one link is the prefix of its life cycle
  that its pcs dictate (`Inv`); every ghost traffic record is link-pure (`GhostInv`).
-/
import Panrpc.Lemmas.Registry

namespace Panrpc.Rg

structure PcOk (k : Link) : Prop where
  id_none : k.id = none ↔ (k.setup = .absent ∨ k.setup = .started)
  no_ins  : k.setup ≠ .inserted
  no_del  : k.setup ≠ .deleted
  early   : (k.setup = .absent ∨ k.setup = .started ∨ k.setup = .registered) →
              k.reqLoop = .notStarted ∧ k.respLoop = .notStarted ∧ k.pendingReq = 0
  late    : (k.setup = .loopsDone ∨ k.setup = .unregistered) →
              k.reqLoop = .exited ∧ k.respLoop = .exited
  wait    : k.setup = .waiting → k.reqLoop ≠ .notStarted ∧ k.respLoop ≠ .notStarted

theorem PcOk.next {w : Bool} {l n : Nat} {k k' : Link} {op : Op} (hk : PcOk k)
    (h : k.next w l n op = some k') : PcOk k' := by
  cases op <;> simp only [Link.next] at h
  all_goals (repeat' split at h) <;> (try simp at h) <;> (try subst h)
  all_goals first
    | exact hk
    | exact ⟨hk.id_none, hk.no_ins, hk.no_del, hk.early, hk.late, hk.wait⟩  -- `k'` differs in fields no clause reads
    | grind [cases PcOk, intro PcOk]

theorem PcOk.has_id {k : Link} (hp : PcOk k)
    (h : k.reqLoop ≠ .notStarted ∨ 0 < k.pendingReq ∨ k.setup = .loopsDone ∨ k.setup = .unregistered) :
    ∃ i, k.id = some i := by
  rw [← Option.ne_none_iff_exists', Ne, hp.id_none]
  intro hn
  have he := hp.early (hn.elim .inl fun h => .inr (.inl h))
  rcases h with h | h | h | h
  · exact h he.1
  · omega
  all_goals rcases hn with hn | hn <;> simp [hn] at h

/-- The setup goroutine is a straight line, and the id is assigned on its second edge only: an
    enabled action either leaves the id and the position relative to the table alone and is no
    table op, or it is the registration, or the removal. -/
theorem next_setup {w : Bool} {l n : Nat} {k k' : Link} {op : Op} (hp : PcOk k)
    (h : k.next w l n op = some k') :
    (op.table = false ∧ k'.id = k.id ∧ k'.setup.live = k.setup.live ∧
      (k'.setup = .unregistered ↔ k.setup = .unregistered)) ∨
    (op = .setupRegister ∧ k.setup = .started ∧ k.id = none ∧
      k' = { k with setup := .registered, id := some n }) ∨
    (op = .setupUnregister ∧ k.setup = .loopsDone ∧ k.id.isSome = true ∧
      k' = { k with setup := .unregistered }) := by
  obtain ⟨a1, a2, a3, -, -, -⟩ := hp
  cases op <;> simp only [Link.next] at h
  all_goals (repeat' split at h) <;> (try simp at h) <;> (try subst h)
  all_goals simp_all [Op.table, Link.fail, Setup.live]

theorem next_id {w : Bool} {l n i : Nat} {k k' : Link} {op : Op} (hp : PcOk k)
    (h : k.next w l n op = some k') (hid : k.id = some i) : k'.id = some i := by
  rcases next_setup hp h with h | h | h
  · rwa [h.2.1]
  · rw [h.2.2.1] at hid; cases hid
  · rw [h.2.2.2]; exact hid

theorem next_unregistered {w : Bool} {l n : Nat} {k k' : Link} {op : Op} (hp : PcOk k)
    (h : k.next w l n op = some k') (hu : k.setup = .unregistered) : k'.setup = .unregistered := by
  rcases next_setup hp h with h | h | h
  · exact h.2.2.2.mpr hu
  · rw [h.2.1] at hu; cases hu
  · rw [h.2.1] at hu; cases hu

/-- What `next` keeps of a link's component (given `PcOk`), every step keeps, whoever acts. -/
theorem link_step {sk : Skeleton} (hF : Facts sk) {Q : Link → Prop}
    (hQ : ∀ {w l n k k' op}, PcOk k → Link.next w l n k op = some k' → Q k → Q k')
    {s s' : State} {a : Act} (hs : step sk s a = some s') (l : Nat) (hp : PcOk (s.links l)) :
    Q (s.links l) → Q (s'.links l) := by
  obtain ⟨j, op⟩ := a
  intro hq
  by_cases h : l = j
  · subst h; exact hQ hp (by rw [← step_own hF, hs]; rfl) hq
  · rwa [step_other hF hs h]

/-- `s'` has the table, the id counter and the hook log of `s`, and every link its id and setup pc. -/
structure Same (s s' : State) : Prop where
  remotes : s'.remotes = s.remotes
  nextId  : s'.nextId = s.nextId
  hookLog : s'.hookLog = s.hookLog
  core    : ∀ j, (s'.links j).id = (s.links j).id ∧ (s'.links j).setup = (s.links j).setup

/-- The hook events of link `l`, newest first, as its component dictates them. -/
def Link.events (k : Link) (l : Nat) : List HookEv :=
  expect .linkDisconnect l k.discId ++ expect .regDisconnect l k.discId ++
  expect .linkConnect l k.id ++ expect .regConnect l k.id

structure Inv (s : State) : Prop where
  pc     : ∀ l, PcOk (s.links l)
  id_lt  : ∀ l i, (s.links l).id = some i → i < s.nextId
  id_inj : ∀ l l' i, (s.links l).id = some i → (s.links l').id = some i → l = l'
  owned  : ∀ i l, s.remotes i = some l ↔ ((s.links l).id = some i ∧ (s.links l).setup.live = true)
  log    : ∀ l, s.hookLog.filter (fun e => decide (e.link = l)) = (s.links l).events l

theorem inv_init : Inv init := by
  constructor <;> simp [init, Link.fresh, Link.events, Link.discId, expect, Setup.live]
  exact ⟨by simp, by simp, by simp, by simp, by simp, by simp⟩

theorem Inv.step {sk : Skeleton} (hF : Facts sk) {s s' : State} {l : Nat} {op : Op} (hi : Inv s)
    (hs : step sk s ⟨l, op⟩ = some s') : Inv s' := by
  obtain ⟨k', hk, rfl⟩ := step_eq hF hs
  have hpc : ∀ j, PcOk (upd s.links l k' j) := by
    intro j; rw [upd_apply]; split
    · exact (hi.pc l).next hk
    · exact hi.pc j
  rcases next_setup (hi.pc l) hk with ⟨hop, h1, h2, h3⟩ | ⟨rfl, h1, h2, rfl⟩ | ⟨rfl, h1, h2, rfl⟩
  · -- no table op: the table, the counter and the log stay, and so does what they reflect of `l`
    obtain ⟨e1, e2, e3⟩ := shared_table l (s.links l) { s with links := upd s.links l k' } hop
    have hc : ∀ j, (upd s.links l k' j).id = (s.links j).id ∧
        (upd s.links l k' j).setup.live = (s.links j).setup.live ∧
        (upd s.links l k' j).events j = (s.links j).events j := by
      intro j; rw [upd_apply]; split
      · subst j; exact ⟨h1, h2, by simp only [Link.events, Link.discId, h1, h3]⟩
      · exact ⟨rfl, rfl, rfl⟩
    refine ⟨by rwa [shared_links], ?_, ?_, ?_, ?_⟩ <;>
      rw [shared_links] <;> (try rw [e1]) <;> (try rw [e2]) <;> (try rw [e3])
    · intro j i; rw [(hc j).1]; exact hi.id_lt j i
    · intro j j' i; rw [(hc j).1, (hc j').1]; exact hi.id_inj j j' i
    · intro i j; rw [(hc j).1, (hc j).2.1]; exact hi.owned i j
    · intro j; rw [(hc j).2.2]; exact hi.log j
  · -- registration: the id drawn is fresh by `id_lt`
    clear hk hs
    refine ⟨hpc, ?_, ?_, ?_, ?_⟩ <;> clear hpc <;> simp only [shared]
    · have := hi.id_lt; grind
    · have := hi.id_lt; have := hi.id_inj; grind
    · have := hi.id_lt; have := hi.owned; grind [Setup.live]
    · intro j
      have := hi.log j
      rw [upd_apply]; split
      · subst j; simp_all [Link.events, Link.discId, expect]
      · simp_all [Ne.symm]
  · -- removal: the entry deleted is `l`'s own, and its only one, by `id_inj`
    clear hk hs
    obtain ⟨i, hid⟩ := Option.isSome_iff_exists.mp h2
    refine ⟨hpc, ?_, ?_, ?_, ?_⟩ <;> clear hpc <;> simp only [shared, hid]
    · have := hi.id_lt; grind
    · have := hi.id_inj; grind
    · have := hi.id_inj; have := hi.owned; grind [Setup.live]
    · intro j
      have := hi.log j
      rw [upd_apply]; split
      · subst j; simp_all [Link.events, Link.discId, expect]
      · simp_all [expect, Ne.symm]

theorem events_mirror (k : Link) (l : Nat) :
    ((k.events l).filter fun e => e.kind.isLink).map HookEv.toReg =
      (k.events l).filter fun e => e.kind.isReg := by
  simp only [Link.events]
  generalize k.discId = d
  cases d <;> cases k.id <;> rfl

theorem Inv.mirror {s : State} (hi : Inv s) (l : Nat) :
    (linkEvs s.hookLog l).map HookEv.toReg = regEvs s.hookLog l := by
  have := events_mirror (s.links l) l
  rwa [← hi.log, List.filter_filter, List.filter_filter] at this

structure GhostInv (s : State) : Prop where
  mirror    : ∀ l, (linkEvs s.hookLog l).map HookEv.toReg = regEvs s.hookLog l
  inv_id    : ∀ v, v ∈ s.invocations → v.rid = (s.links v.link).id ∧ v.rid ≠ none
  written   : ∀ w, w ∈ s.written → w.writer = w.via ∧ w.table = some w.via
  delivered : ∀ d, d ∈ s.delivered → d.caller = d.reader

theorem GhostInv.step {sk : Skeleton} (hF : Facts sk) {s s' : State} {l : Nat} {op : Op}
    (hi : Inv s) (hg : GhostInv s) (hs : step sk s ⟨l, op⟩ = some s') : GhostInv s' := by
  have hm := (hi.step hF hs).mirror
  obtain ⟨k', hk, rfl⟩ := step_eq hF hs
  obtain ⟨g1, g2, g3⟩ := shared_ghost l (s.links l) { s with links := upd s.links l k' } op
  refine ⟨hm, fun v hv => ?_, fun x hx => ?_, fun d hd => ?_⟩
  · rw [shared_links]
    rcases g1 v hv with hv | ⟨rfl, rfl⟩
    · obtain ⟨e1, e2⟩ := hg.inv_id v hv
      obtain ⟨i, hr⟩ := Option.ne_none_iff_exists'.mp e2
      rw [hr] at e1
      exact ⟨by rw [hr, ← shared_links, link_step hF next_id hs _ (hi.pc _) e1.symm], e2⟩
    · simp only [Link.next] at hk
      split at hk <;> cases hk
      obtain ⟨i, hid⟩ := (hi.pc l).has_id (.inr (.inl ‹_›))
      simp [hid]
  · rcases g2 x hx with hx | rfl
    · exact hg.written x hx
    · exact ⟨rfl, rfl⟩
  · rcases g3 d hd with hd | rfl
    · exact hg.delivered d hd
    · rfl

theorem reach_invs {sk : Skeleton} (h : Facts sk) {s : State} (hr : Reach sk s) :
    Inv s ∧ GhostInv s := by
  induction hr with
  | init => exact ⟨inv_init, by constructor <;> simp [init, linkEvs, regEvs]⟩
  | step a _ hs ih => exact ⟨ih.1.step h hs, ih.2.step h ih.1 hs⟩

theorem reach_inv {sk : Skeleton} (h : Facts sk) {s : State} (hr : Reach sk s) : Inv s :=
  (reach_invs h hr).1

theorem reach_ghost {sk : Skeleton} (h : Facts sk) {s : State} (hr : Reach sk s) : GhostInv s :=
  (reach_invs h hr).2

@[simp] theorem evs_nil (k : HookKind) (l : Nat) : evs [] k l = [] := rfl

theorem evs_cons (e : HookEv) (log : List HookEv) (k : HookKind) (l : Nat) :
    evs (e :: log) k l = if e.kind = k ∧ e.link = l then e :: evs log k l else evs log k l := by
  simp only [evs, List.filter_cons]; split <;> simp_all

theorem mem_evs (e : HookEv) (log : List HookEv) (k : HookKind) (l : Nat) :
    e ∈ evs log k l ↔ e ∈ log ∧ e.kind = k ∧ e.link = l := by
  simp [evs]

theorem linkEvs_cons (e : HookEv) (log : List HookEv) (l : Nat) :
    linkEvs (e :: log) l = if e.kind.isLink = true ∧ e.link = l then e :: linkEvs log l else linkEvs log l := by
  simp only [linkEvs, List.filter_cons]; split <;> simp_all

theorem regEvs_cons (e : HookEv) (log : List HookEv) (l : Nat) :
    regEvs (e :: log) l = if e.kind.isReg = true ∧ e.link = l then e :: regEvs log l else regEvs log l := by
  simp only [regEvs, List.filter_cons]; split <;> simp_all

/-- the id a hook event of kind `c` of this link carries, once it has happened -/
def Link.idAt (k : Link) : HookKind → Option Nat
  | .regConnect | .linkConnect => k.id
  | _ => k.discId

theorem events_filter (k : Link) (l : Nat) (c : HookKind) :
    (k.events l).filter (fun e => decide (e.kind = c)) = expect c l (k.idAt c) := by
  cases c <;> simp only [Link.events, Link.idAt] <;> generalize k.discId = d <;>
    cases d <;> cases k.id <;> rfl

theorem Inv.evs_eq {s : State} (hi : Inv s) (c : HookKind) (l : Nat) :
    evs s.hookLog c l = expect c l ((s.links l).idAt c) := by
  rw [← events_filter, ← hi.log, List.filter_filter]
  simp only [evs, Bool.decide_and]

theorem mem_expect (k : HookKind) (l : Nat) (o : Option Nat) (e : HookEv) :
    e ∈ expect k l o ↔ ∃ i, o = some i ∧ e = ⟨k, l, i⟩ := by
  cases o <;> simp [expect]

theorem expect_length (k : HookKind) (l : Nat) (o : Option Nat) : (expect k l o).length ≤ 1 := by
  cases o <;> simp [expect]

theorem Inv.evs_length {s : State} (hi : Inv s) (c : HookKind) (l : Nat) :
    (evs s.hookLog c l).length ≤ 1 := by
  rw [hi.evs_eq]; exact expect_length _ _ _

theorem Inv.mem {s : State} (hi : Inv s) (c : HookKind) (l i : Nat) :
    ⟨c, l, i⟩ ∈ s.hookLog ↔ (s.links l).idAt c = some i := by
  have := mem_evs ⟨c, l, i⟩ s.hookLog c l
  rw [hi.evs_eq, mem_expect] at this
  simpa [eq_comm] using this.symm

theorem discId_eq (k : Link) (i : Nat) :
    k.discId = some i ↔ (k.setup = .unregistered ∧ k.id = some i) := by
  simp only [Link.discId]; split <;> simp_all

theorem Inv.log_lt {s : State} (hi : Inv s) (e : HookEv) (he : e ∈ s.hookLog) : e.id < s.nextId := by
  obtain ⟨c, l, i⟩ := e
  rw [hi.mem] at he
  refine hi.id_lt l i ?_
  cases c
  case regConnect | linkConnect => exact he
  all_goals exact ((discId_eq _ i).mp he).2

/-- enumeration = announced as connected and not yet as disconnected -/
theorem Inv.enumeration_eq_live {s : State} (hi : Inv s) (i l : Nat) :
    s.remotes i = some l ↔
      (⟨.regConnect, l, i⟩ ∈ s.hookLog ∧ ⟨.regDisconnect, l, i⟩ ∉ s.hookLog) := by
  rw [hi.owned, hi.mem, hi.mem]
  simp only [Link.idAt, discId_eq]
  have hp := hi.pc l
  have := hp.id_none; have := hp.no_ins; have := hp.no_del
  cases hset : (s.links l).setup <;> simp_all [Setup.live]

theorem Inv.unregistered {s : State} (hi : Inv s) {l : Nat} (hu : (s.links l).setup = .unregistered) :
    (∀ i, s.remotes i ≠ some l) ∧
    ∃ i, (s.links l).id = some i ∧ ⟨.regDisconnect, l, i⟩ ∈ s.hookLog ∧
      ⟨.linkDisconnect, l, i⟩ ∈ s.hookLog := by
  refine ⟨fun i hrm => ?_, ?_⟩
  · have := ((hi.owned i l).mp hrm).2
    simp [hu, Setup.live] at this
  · obtain ⟨i, hid⟩ := (hi.pc l).has_id (.inr (.inr (.inr hu)))
    have hd := (discId_eq _ i).mpr ⟨hu, hid⟩
    exact ⟨i, hid, (hi.mem _ l i).mpr hd, (hi.mem _ l i).mpr hd⟩

end Panrpc.Rg
