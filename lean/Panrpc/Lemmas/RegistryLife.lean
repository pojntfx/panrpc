/-
  Lemmas/RegistryLife.lean — the general (∀ sk, Facts sk → …) forms of the C13 (identity, routing,
  isolation), C14 (life cycle of one link, hook log) and C15 (registry part) statements of M4;
  Props/C13.lean, C14.lean and C15Reg.lean instantiate them with `Skeleton.current`.
-/
import Panrpc.Lemmas.RegistryInv

namespace Panrpc.Rg

theorem run_rel {sk : Skeleton} {P : Act → Prop} {R : State → State → Prop} (hrefl : ∀ s, R s s)
    (htrans : ∀ {a b c}, R a b → R b c → R a c)
    (hstep : ∀ {s a s'}, Reach sk s → P a → step sk s a = some s' → R s s')
    {acts : List Act} {s s' : State} (hr : Reach sk s) (hall : ∀ a, a ∈ acts → P a)
    (hrun : run sk s acts = some s') : R s s' :=
  (runFrom_rel (step := step sk) (I := Reach sk) (P := P) hrefl htrans
    (fun {_ a _} hi hp hs => ⟨hi.step a hs, hstep hi hp hs⟩) hr hall hrun).2

theorem link_run {sk : Skeleton} (hF : Facts sk) {Q : Link → Prop}
    (hQ : ∀ {w l n k k' op}, PcOk k → Link.next w l n k op = some k' → Q k → Q k')
    (l : Nat) {acts : List Act} {s s' : State} (hr : Reach sk s) (hrun : run sk s acts = some s') :
    Q (s.links l) → Q (s'.links l) :=
  run_rel (P := fun _ => True) (R := fun s s' => Q (s.links l) → Q (s'.links l))
    (fun _ h => h) (fun h1 h2 h => h2 (h1 h))
    (fun hr _ hs => link_step hF hQ hs l ((reach_inv hF hr).pc l)) hr (fun _ _ => trivial) hrun

theorem teardownRun_own (k : Link) (l : Nat) : ∀ a, a ∈ teardownRun k l → a.link = l := by
  intro a ha
  simp only [teardownRun, List.mem_append] at ha
  grind

theorem teardownRun_length (k : Link) (l : Nat) : (teardownRun k l).length ≤ 6 := by
  simp only [teardownRun, List.length_append]
  grind

theorem teardownRun_length_registered (k : Link) (l : Nat) (h : k.setup ≠ .started) :
    (teardownRun k l).length ≤ 5 := by
  simp only [teardownRun, List.length_append]
  grind

theorem teardown {sk : Skeleton} (hF : Facts sk) (s : State) (l : Nat) (hp : PcOk (s.links l))
    (hr : (s.links l).readsFail = true)
    (hs : (s.links l).setup = .started ∨ (s.links l).setup = .registered ∨
          (s.links l).setup = .waiting ∨ (s.links l).setup = .loopsDone) :
    ∃ s', run sk s (teardownRun (s.links l) l) = some s' ∧ (s'.links l).setup = .unregistered ∧
      (s'.links l).reqLoop = .exited ∧ (s'.links l).respLoop = .exited := by
  -- by cases on the setup pc: `PcOk` gives the two loop pcs (and the id) that go with it, and `simp` evaluates the
  -- explicit run through `step_next`
  obtain ⟨p1, -, -, p4, p5, p6⟩ := hp
  rcases hs with hs | hs
  · obtain ⟨e1, e2, -⟩ := p4 (.inr (.inl hs))
    simp [teardownRun, run, runFrom, step_next hF, Link.next, shared, hs, e1, e2, hr, Link.fail]
  · obtain ⟨i, hid⟩ : ∃ i, (s.links l).id = some i := by
      rw [← Option.ne_none_iff_exists', Ne, p1]; rcases hs with hs | hs | hs <;> simp [hs]
    rcases hs with hs | hs | hs
    · obtain ⟨e1, e2, -⟩ := p4 (.inr (.inr hs))
      simp [teardownRun, run, runFrom, step_next hF, Link.next, shared, hs, e1, e2, hr, hid, Link.fail]
    · obtain ⟨e1, e2⟩ := p6 hs
      cases hq : (s.links l).reqLoop <;> cases hq' : (s.links l).respLoop <;>
        simp_all [teardownRun, run, runFrom, step_next hF, Link.next, shared, Link.fail]
    · obtain ⟨e1, e2⟩ := p5 (.inl hs)
      simp [teardownRun, run, runFrom, step_next hF, Link.next, shared, hs, e1, e2, hid]

/-- hook events are only ever appended: the log of a later state extends the log of an earlier
    one, so "is in the log now" means "happened before now" -/
theorem hookLog_suffix_run {sk : Skeleton} (hF : Facts sk) (acts : List Act) (s s' : State)
    (hrun : run sk s acts = some s') : s.hookLog <:+ s'.hookLog := by
  refine runFrom_invariant (P := fun t => s.hookLog <:+ t.hookLog) ?_ acts (List.suffix_refl _) hrun
  intro t ⟨l, op⟩ t' h hs
  obtain ⟨k', -, rfl⟩ := step_eq hF hs
  exact h.trans (shared_hookLog_suffix l _ { t with links := upd t.links l k' } op)

/-- general form of `C14_enumeration_eq_live` -/
theorem enumeration_eq_live_reach {sk : Skeleton} (hF : Facts sk) : ∀ s, Reach sk s → ∀ i l,
    (s.remotes i = some l ↔
      (⟨.regConnect, l, i⟩ ∈ s.hookLog ∧ ⟨.regDisconnect, l, i⟩ ∉ s.hookLog)) ∧
    (s.remotes i = some l ↔
      (⟨.linkConnect, l, i⟩ ∈ s.hookLog ∧ ⟨.linkDisconnect, l, i⟩ ∉ s.hookLog)) := by
  intro s hr i l
  have hi := reach_inv hF hr
  have h := hi.enumeration_eq_live i l
  refine ⟨h, ?_⟩
  rw [h, hi.mem, hi.mem, hi.mem, hi.mem]; rfl

/-- general form of `C14_connect_once_first` -/
theorem connect_once_first {sk : Skeleton} (hF : Facts sk) : ∀ s, Reach sk s → ∀ l,
    evs s.hookLog .regConnect l = expect .regConnect l (s.links l).id ∧
    evs s.hookLog .linkConnect l = expect .linkConnect l (s.links l).id ∧
    (evs s.hookLog .regConnect l).length ≤ 1 ∧ (evs s.hookLog .linkConnect l).length ≤ 1 ∧
    (∀ i, ⟨.regConnect, l, i⟩ ∈ s.hookLog ↔ ⟨.linkConnect, l, i⟩ ∈ s.hookLog) ∧
    (((s.links l).reqLoop ≠ .notStarted ∨ 0 < (s.links l).pendingReq ∨
        (s.invocations.any fun v => decide (v.link = l)) = true) →
      ∃ i, (s.links l).id = some i ∧ ⟨.regConnect, l, i⟩ ∈ s.hookLog ∧
        ⟨.linkConnect, l, i⟩ ∈ s.hookLog) := by
  intro s hr l
  have hi := reach_inv hF hr
  refine ⟨hi.evs_eq _ l, hi.evs_eq _ l, hi.evs_length _ l, hi.evs_length _ l,
    fun i => by rw [hi.mem, hi.mem]; rfl, fun h => ?_⟩
  obtain ⟨i, hid⟩ : ∃ i, (s.links l).id = some i := by
    rcases h with h | h | h
    · exact (hi.pc l).has_id (.inl h)
    · exact (hi.pc l).has_id (.inr (.inl h))
    · simp only [List.any_eq_true, decide_eq_true_eq] at h
      obtain ⟨v, hv, rfl⟩ := h
      have := (reach_ghost hF hr).inv_id v hv
      rw [← this.1]; exact Option.ne_none_iff_exists'.mp this.2
  exact ⟨i, hid, (hi.mem _ l i).mpr hid, (hi.mem _ l i).mpr hid⟩

/-- general form of `C14_connect_before_requests` -/
theorem connect_before_requests {sk : Skeleton} (hF : Facts sk) : ∀ s, Reach sk s → ∀ l s',
    (step sk s ⟨l, .reqRead⟩ = some s' ∨ step sk s ⟨l, .reqHandle⟩ = some s') →
    ∃ i, (s.links l).id = some i ∧ ⟨.regConnect, l, i⟩ ∈ s.hookLog ∧ ⟨.linkConnect, l, i⟩ ∈ s.hookLog := by
  intro s hr l s' h
  refine (connect_once_first hF s hr l).2.2.2.2.2 ?_
  rcases h with h | h <;> obtain ⟨k', hk, -⟩ := step_eq hF h <;> simp only [Link.next] at hk <;>
    split at hk
  · rename_i hg; left; rw [hg.1]; decide
  · cases hk
  · exact .inr (.inl ‹_›)
  · cases hk

/-- general form of `C14_disconnect_once_after_loops` -/
theorem disconnect_once_after_loops {sk : Skeleton} (hF : Facts sk) : ∀ s, Reach sk s → ∀ l,
    evs s.hookLog .regDisconnect l = expect .regDisconnect l (s.links l).discId ∧
    evs s.hookLog .linkDisconnect l = expect .linkDisconnect l (s.links l).discId ∧
    (evs s.hookLog .regDisconnect l).length ≤ 1 ∧ (evs s.hookLog .linkDisconnect l).length ≤ 1 ∧
    (∀ i, ⟨.regDisconnect, l, i⟩ ∈ s.hookLog ↔ ⟨.linkDisconnect, l, i⟩ ∈ s.hookLog) ∧
    (∀ i, ⟨.regDisconnect, l, i⟩ ∈ s.hookLog →
      (s.links l).reqLoop = .exited ∧ (s.links l).respLoop = .exited ∧
      ⟨.regConnect, l, i⟩ ∈ s.hookLog ∧ ⟨.linkConnect, l, i⟩ ∈ s.hookLog) := by
  intro s hr l
  have hi := reach_inv hF hr
  refine ⟨hi.evs_eq _ l, hi.evs_eq _ l, hi.evs_length _ l, hi.evs_length _ l,
    fun i => by rw [hi.mem, hi.mem]; rfl, fun i h => ?_⟩
  obtain ⟨hu, hid⟩ := (discId_eq _ i).mp ((hi.mem _ l i).mp h)
  have hl := (hi.pc l).late (Or.inr hu)
  exact ⟨hl.1, hl.2, (hi.mem _ l i).mpr hid, (hi.mem _ l i).mpr hid⟩

/-- general form of `C14_disconnect_step` -/
theorem disconnect_step {sk : Skeleton} (hF : Facts sk) : ∀ s, Reach sk s → ∀ l s',
    step sk s ⟨l, .setupUnregister⟩ = some s' →
    (s.links l).reqLoop = .exited ∧ (s.links l).respLoop = .exited ∧
    ∃ i, (s.links l).id = some i ∧ s.remotes i = some l ∧ s'.remotes i = none ∧
      s'.hookLog = ⟨.linkDisconnect, l, i⟩ :: ⟨.regDisconnect, l, i⟩ :: s.hookLog := by
  intro s hr l s' h
  have hi := reach_inv hF hr
  obtain ⟨k', hk, rfl⟩ := step_eq hF h
  simp only [Link.next] at hk
  split at hk
  · rename_i hg
    have hl := (hi.pc l).late (Or.inl hg.1)
    obtain ⟨i, hid⟩ := Option.isSome_iff_exists.mp hg.2
    exact ⟨hl.1, hl.2, i, hid, (hi.owned i l).mpr ⟨hid, by simp [hg.1, Setup.live]⟩,
      by simp [shared, hid], by simp [shared, hid, expect]⟩
  · cases hk

/-- general form of `C14_ids_fresh` -/
theorem ids_fresh {sk : Skeleton} (hF : Facts sk) : ∀ s, Reach sk s →
    (∀ l l' i, (s.links l).id = some i → (s.links l').id = some i → l = l') ∧
    (∀ l s', step sk s ⟨l, .setupRegister⟩ = some s' →
      (s'.links l).id = some s.nextId ∧ s.remotes s.nextId = none ∧
      (∀ e, e ∈ s.hookLog → e.id ≠ s.nextId) ∧ (∀ l', (s.links l').id ≠ some s.nextId)) := by
  intro s hr
  have hi := reach_inv hF hr
  refine ⟨hi.id_inj, ?_⟩
  intro l s' h
  obtain ⟨k', hk, rfl⟩ := step_eq hF h
  simp only [Link.next] at hk
  split at hk <;> cases hk
  refine ⟨by simp [shared], ?_, ?_, ?_⟩
  · refine Option.eq_none_iff_forall_ne_some.mpr fun o hrm => ?_
    have := hi.id_lt o s.nextId ((hi.owned _ _).mp hrm).1; omega
  · intro e he heq; have := hi.log_lt e he; omega
  · intro l' hl'; have := hi.id_lt l' _ hl'; omega

/-- general form of `C14_disconnect_reachable` (its hypothesis on the link's context is not needed) -/
theorem disconnect_reachable {sk : Skeleton} (hF : Facts sk) : ∀ s, Reach sk s → ∀ l,
    (s.links l).readsFail = true →
    ((s.links l).setup = .started ∨ (s.links l).setup = .registered ∨
      (s.links l).setup = .waiting ∨ (s.links l).setup = .loopsDone) →
    (∀ a, a ∈ teardownRun (s.links l) l → a.link = l) ∧
    (teardownRun (s.links l) l).length ≤ 6 ∧
    ((s.links l).setup ≠ .started → (teardownRun (s.links l) l).length ≤ 5) ∧
    ∃ s', run sk s (teardownRun (s.links l) l) = some s' ∧
      (s'.links l).setup = .unregistered ∧ (s'.links l).reqLoop = .exited ∧
      (s'.links l).respLoop = .exited ∧ (∀ i, s'.remotes i ≠ some l) ∧
      ∃ i, (s'.links l).id = some i ∧ ⟨.regDisconnect, l, i⟩ ∈ s'.hookLog ∧
        ⟨.linkDisconnect, l, i⟩ ∈ s'.hookLog := by
  intro s hr l hrf hset
  refine ⟨teardownRun_own _ l, teardownRun_length _ l, teardownRun_length_registered _ l, ?_⟩
  obtain ⟨s', hrun, e1, e2, e3⟩ := teardown hF s l ((reach_inv hF hr).pc l) hrf hset
  obtain ⟨h1, h2⟩ := (reach_inv hF (reach_of_run _ _ hr hrun)).unregistered e1
  exact ⟨s', hrun, e1, e2, e3, h1, h2⟩

/-- …in particular from every state in which `l` is enumerated. -/
theorem disconnect_reachable_enumerated {sk : Skeleton} (hF : Facts sk) : ∀ s, Reach sk s → ∀ l i,
    s.remotes i = some l → (s.links l).readsFail = true →
    (teardownRun (s.links l) l).length ≤ 5 ∧
    ∃ s', run sk s (teardownRun (s.links l) l) = some s' ∧
      (∀ j, s'.remotes j ≠ some l) ∧ ⟨.regDisconnect, l, i⟩ ∈ s'.hookLog ∧
      ⟨.linkDisconnect, l, i⟩ ∈ s'.hookLog := by
  intro s hr l i hrm hf
  have hi := reach_inv hF hr
  obtain ⟨hid, hlive⟩ := (hi.owned i l).mp hrm
  have hset : (s.links l).setup = .started ∨ (s.links l).setup = .registered ∨
      (s.links l).setup = .waiting ∨ (s.links l).setup = .loopsDone := by
    cases hsu : (s.links l).setup <;> simp_all [Setup.live]
  have hns : (s.links l).setup ≠ .started := by
    intro h; simp [h, Setup.live] at hlive
  obtain ⟨_, _, h5, s', hrun, _, _, _, hnot, j, hj, hd1, hd2⟩ :=
    disconnect_reachable hF s hr l hf hset
  -- the id of a link never changes once assigned: the disconnect events carry `i`
  rw [link_run hF (Q := fun k => k.id = some i) next_id l hr hrun hid] at hj
  cases hj
  exact ⟨h5 hns, s', hrun, hnot, hd1, hd2⟩

theorem identity_consistent {sk : Skeleton} (hF : Facts sk) : ∀ s, Reach sk s →
    ∀ v, v ∈ s.invocations →
    ∃ i, v.rid = some i ∧ (s.links v.link).id = some i ∧
      ⟨.regConnect, v.link, i⟩ ∈ s.hookLog ∧ ⟨.linkConnect, v.link, i⟩ ∈ s.hookLog ∧
      (∀ j, s.remotes j = some v.link → j = i) ∧
      (⟨.regDisconnect, v.link, i⟩ ∉ s.hookLog → s.remotes i = some v.link) ∧
      (∀ l', (s.links l').id = some i → l' = v.link) := by
  intro s hr v hv
  have hi := reach_inv hF hr
  obtain ⟨h1, h2⟩ := (reach_ghost hF hr).inv_id v hv
  obtain ⟨i, hrid⟩ := Option.ne_none_iff_exists'.mp h2
  have hid : (s.links v.link).id = some i := by rw [← h1, hrid]
  have hc := (hi.mem .regConnect v.link i).mpr hid
  refine ⟨i, hrid, hid, hc, (hi.mem .linkConnect _ i).mpr hid, fun j hj => ?_,
    fun hnd => (hi.enumeration_eq_live i v.link).mpr ⟨hc, hnd⟩, fun l' hl' => hi.id_inj l' _ i hl' hid⟩
  have := ((hi.owned j _).mp hj).1
  rw [hid] at this; exact (Option.some.inj this).symm

theorem routing {sk : Skeleton} (hF : Facts sk) : ∀ s, Reach sk s →
    (∀ w, w ∈ s.written → w.writer = w.via ∧ w.table = some w.via) ∧
    (∀ d, d ∈ s.delivered → d.caller = d.reader) :=
  fun _ hr => ⟨(reach_ghost hF hr).written, (reach_ghost hF hr).delivered⟩

theorem isolation {sk : Skeleton} (hF : Facts sk) : ∀ s, Reach sk s →
    ∀ (l l' : Nat) (a : Op) (s1 : State), l' ≠ l → step sk s ⟨l, a⟩ = some s1 →
    s1.links l' = s.links l' ∧
    (∀ i, s1.remotes i = some l' ↔ s.remotes i = some l') ∧
    (∀ b, ¬(a = .setupRegister ∧ b = .setupRegister) →
      (step sk s1 ⟨l', b⟩).map (fun t => t.links l') = (step sk s ⟨l', b⟩).map (fun t => t.links l')) ∧
    (∀ b, (step sk s1 ⟨l', b⟩).map (fun t => (t.links l').eraseId) =
          (step sk s ⟨l', b⟩).map (fun t => (t.links l').eraseId)) := by
  intro s hr l l' a s1 hne hs
  have hk := step_other hF hs hne
  refine ⟨hk, fun i => ?_, fun b hb => ?_, fun b => ?_⟩
  · -- the entries a link owns are a function of its component
    rw [(reach_inv hF (hr.step _ hs)).owned, (reach_inv hF hr).owned, hk]
  · rw [step_own hF, step_own hF, hk]
    by_cases hbr : b = .setupRegister
    · obtain ⟨k', -, rfl⟩ := step_eq hF hs
      rw [shared_nextId _ _ _ fun ha => hb ⟨ha, hbr⟩]
    · exact (next_nextId _ _ _ _ _ _).1 hbr
  · have h (t : State) : (step sk t ⟨l', b⟩).map (fun u => (u.links l').eraseId) =
        ((t.links l').next sk.watcherCallsSetErr l' t.nextId b).map Link.eraseId := by
      rw [← step_own hF, Option.map_map]; rfl
    rw [h, h, hk]; exact (next_nextId _ _ _ _ _ _).2

/-- the commuting-square form: whatever `l'` could do before `l`'s action it can do after it,
    with the same effect on its own component and on the table entries it owns -/
theorem isolation_commute {sk : Skeleton} (hF : Facts sk) : ∀ s, Reach sk s →
    ∀ (l l' : Nat) (a b : Op) (s1 s2 : State), l' ≠ l →
    ¬(a = .setupRegister ∧ b = .setupRegister) →
    step sk s ⟨l, a⟩ = some s1 → step sk s ⟨l', b⟩ = some s2 →
    ∃ s12, step sk s1 ⟨l', b⟩ = some s12 ∧ s12.links l' = s2.links l' ∧
      ∀ i, s12.remotes i = some l' ↔ s2.remotes i = some l' := by
  intro s hr l l' a b s1 s2 hne hab h1 h2
  have h := (isolation hF s hr l l' a s1 hne h1).2.2.1 b hab
  rw [h2] at h
  obtain ⟨s12, h12, h⟩ := Option.map_eq_some_iff.mp h
  refine ⟨s12, h12, h, fun i => ?_⟩
  rw [(reach_inv hF ((hr.step _ h1).step _ h12)).owned, (reach_inv hF (hr.step _ h2)).owned, h]

/-- a whole run of other links' actions — faults, cancellations, failing reads, teardown
    included — leaves `l'`'s component and the table entries it owns unchanged -/
theorem isolation_run {sk : Skeleton} (hF : Facts sk) (l' : Nat) (acts : List Act) (s s' : State)
    (hr : Reach sk s) (hall : ∀ a, a ∈ acts → a.link ≠ l') (hrun : run sk s acts = some s') :
    s'.links l' = s.links l' ∧ ∀ i, s'.remotes i = some l' ↔ s.remotes i = some l' := by
  refine run_rel (P := fun a => a.link ≠ l')
    (R := fun s s' => s'.links l' = s.links l' ∧ ∀ i, s'.remotes i = some l' ↔ s.remotes i = some l')
    (fun _ => ⟨rfl, fun _ => Iff.rfl⟩)
    (fun h1 h2 => ⟨h2.1.trans h1.1, fun i => (h2.2 i).trans (h1.2 i)⟩) ?_ hr hall hrun
  intro s ⟨l, op⟩ s' hr ha hs
  have := isolation hF s hr l l' op s' (Ne.symm ha) hs
  exact ⟨this.1, this.2.1⟩

theorem not_enumerated_after_teardown {sk : Skeleton} (hF : Facts sk) : ∀ s, Reach sk s → ∀ l,
    (s.links l).setup = .unregistered →
    ∀ acts s', run sk s acts = some s' →
      (s'.links l).setup = .unregistered ∧ ∀ i, s'.remotes i ≠ some l := by
  intro s hr l hu acts s' hrun
  have hu' := link_run hF (Q := fun k => k.setup = .unregistered) next_unregistered l hr hrun hu
  exact ⟨hu', ((reach_inv hF (reach_of_run _ _ hr hrun)).unregistered hu').1⟩

theorem setup_and_loops_exit {sk : Skeleton} (hF : Facts sk) : ∀ s, Reach sk s → ∀ l,
    (s.links l).setup ≠ .absent → (s.links l).readsFail = true →
    (∀ a, a ∈ exitRun (s.links l) l → a.link = l) ∧ (exitRun (s.links l) l).length ≤ 6 ∧
    ∃ s', run sk s (exitRun (s.links l) l) = some s' ∧
      (s'.links l).setup = .unregistered ∧ (s'.links l).reqLoop = .exited ∧
      (s'.links l).respLoop = .exited ∧ ∀ i, s'.remotes i ≠ some l := by
  intro s hr l hna hf
  have hi := reach_inv hF hr
  by_cases hu : (s.links l).setup = .unregistered
  · simp only [exitRun, hu, if_true]
    have hl := (hi.pc l).late (Or.inr hu)
    exact ⟨by simp, by simp, s, rfl, hu, hl.1, hl.2, (hi.unregistered hu).1⟩
  · simp only [exitRun, hu, if_false]
    have hset : (s.links l).setup = .started ∨ (s.links l).setup = .registered ∨
        (s.links l).setup = .waiting ∨ (s.links l).setup = .loopsDone := by
      have := (hi.pc l).no_ins; have := (hi.pc l).no_del
      cases hsu : (s.links l).setup <;> simp_all
    obtain ⟨h1, h2, _, s', hrun, e1, e2, e3, e4, _⟩ := disconnect_reachable hF s hr l hf hset
    exact ⟨h1, h2, s', hrun, e1, e2, e3, e4⟩

end Panrpc.Rg
