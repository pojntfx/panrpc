/-
  Specification of the remote-definition walk, independent of the loop, and the general lemmas
  (∀ sk, hypotheses on sk → …) relating `Rw.walk` to it.  The specification flattens a remote
  struct type into the list of its func-typed fields in depth-first declaration order (`funcs`);
  everything C18 talks about (`AllValid`, `firstInvalid`, `Settable`, `funcPaths`) is a statement
  over that list.  The bridge is `walk_eq_verdict`: under the source facts `RwStd sk`, the loop's
  outcome is a left-to-right scan (`verdict`) of that list.  `verdict_spec` says what each of the
  three outcomes of the scan means for the list, `link_spec` the same for `Link`; the C18 theorems
  are case splits on it.
-/
import Panrpc.Model.RemoteDef
import Panrpc.Lemmas.Split

namespace Panrpc.Rw

/-- "takes a context first and returns either an error or a value and an error" -/
def ValidSig (s : Sig) : Prop :=
  (s.numOut = 1 ∨ s.numOut = 2) ∧ s.lastIsError = true ∧ s.numIn ≥ 1 ∧ s.firstIsCtx = true

instance : DecidablePred ValidSig := fun s => by unfold ValidSig; infer_instance

/-- The signature error of one func field: the return shape is judged first. -/
def sigErr (s : Sig) : Option WalkErr :=
  if ¬ ((s.numOut = 1 ∨ s.numOut = 2) ∧ s.lastIsError = true) then some .invalidReturn
  else if ¬ (s.numIn ≥ 1 ∧ s.firstIsCtx = true) then some .invalidArgs
  else none

theorem sigErr_none_iff (s : Sig) : sigErr s = none ↔ ValidSig s := by
  unfold sigErr ValidSig
  grind

/-- A func-typed field somewhere in the remote struct type. -/
structure FuncAt where
  path : List String     -- field names from the root down to the func field
  settable : Bool        -- exported, and not below an unexported (non-embedded) struct field
  sig : Sig
  deriving DecidableEq, Repr

mutual
def funcsField (ro : Bool) : Field → List FuncAt
  | .func n e s => [⟨[n], !ro && e, s⟩]
  | .struct n e fs => (funcs (ro || !e) fs).map fun f => { f with path := n :: f.path }
  | .other _ _ => []
/-- The func fields at any depth, depth-first in declaration order (`ro`: the enclosing value is read-only). -/
def funcs (ro : Bool) : List Field → List FuncAt
  | [] => []
  | f :: fs => funcsField ro f ++ funcs ro fs
end

def AllValid (fs : List Field) : Prop := ∀ f ∈ funcs false fs, ValidSig f.sig
def Settable (fs : List Field) : Prop := ∀ f ∈ funcs false fs, f.settable = true
def firstInvalid (fs : List Field) : Option WalkErr := (funcs false fs).findSome? fun f => sigErr f.sig
def funcPaths (fs : List Field) : List (List String) := (funcs false fs).map (·.path)
/-- Every func field that precedes the first invalid one (all of them if there is none) can be set. -/
def SettableUpToFirstInvalid (fs : List Field) : Prop :=
  ∀ f ∈ (funcs false fs).takeWhile (fun f => (sigErr f.sig).isNone), f.settable = true

instance (fs : List Field) : Decidable (AllValid fs) := by unfold AllValid; infer_instance
instance (fs : List Field) : Decidable (Settable fs) := by unfold Settable; infer_instance
instance (fs : List Field) : Decidable (SettableUpToFirstInvalid fs) := by
  unfold SettableUpToFirstInvalid; infer_instance

mutual
def namesField : Field → List String
  | .func n _ _ => [n]
  | .struct n _ fs => n :: names fs
  | .other n _ => [n]
/-- All field names occurring in the type, at any depth. -/
def names : List Field → List String
  | [] => []
  | f :: fs => namesField f ++ names fs
end

mutual
def dropOtherField : Field → List Field
  | .func n e s => [.func n e s]
  | .struct n e inner => [.struct n e (dropOther inner)]
  | .other _ _ => []
/-- The same type without its non-func, non-struct fields (at every depth). -/
def dropOther : List Field → List Field
  | [] => []
  | f :: fs => dropOtherField f ++ dropOther fs
end

/-- The function string for relative path `p` below name prefix `pre`, as the Go code builds it. -/
def joinPath (pre : String) : List String → String
  | [] => pre
  | n :: p => joinPath (if pre = "" then n else pre ++ "." ++ n) p

/-- Left-to-right scan of the flattened func fields. -/
def verdict (guard : Bool) (pre : String) : List FuncAt → Outcome
  | [] => .ok []
  | f :: rest =>
    match sigErr f.sig with
    | some e => .err e
    | none =>
      if f.settable then
        match verdict guard pre rest with
        | .ok st => .ok ((f.path, joinPath pre f.path) :: st)
        | o => o
      else if guard then verdict guard pre rest
      else .panic

/-- Go's `strings.Split(s, ".")` on the characters of `s` (never returns the empty list). -/
def splitOnDot : List Char → List (List Char)
  | [] => [[]]
  | c :: cs =>
    if c = '.' then [] :: splitOnDot cs
    else
      match splitOnDot cs with
      | [] => [[c]]
      | seg :: rest => (c :: seg) :: rest

structure RwStd (sk : Skeleton) : Prop where
  recurse  : sk.rwRecursesOnStructKind = true
  skips    : sk.rwSkipsNonFunc = true
  checks   : sk.rwChecks = [.numOutRange, .lastOutIsError, .numInAtLeastOne, .firstInIsCtx]
  dot      : sk.rwNameJoinsWithDot = true
  sets     : sk.rwSetsStub = true
  namePath : sk.rwStubNameIsPath = true

theorem runChecks_std (s : Sig) :
    runChecks [.numOutRange, .lastOutIsError, .numInAtLeastOne, .firstInIsCtx] s =
      match sigErr s with
      | some e => .fail e
      | none => .pass := by
  rcases s with ⟨ni, c, no, e⟩
  simp only [runChecks, runCheck, sigErr]
  -- the table: numOut = 0, 1, 2 or more; numIn = 0 or more; the two flags
  rcases no with _ | _ | _ | no <;> rcases ni with _ | ni <;> cases e <;> cases c <;> simp

theorem verdict_append (g : Bool) (pre : String) (a b : List FuncAt) :
    verdict g pre (a ++ b) =
      match verdict g pre a with
      | .ok s₁ =>
        match verdict g pre b with
        | .ok s₂ => .ok (s₁ ++ s₂)
        | o => o
      | o => o := by
  induction a with
  | nil => simp only [List.nil_append, verdict]; cases verdict g pre b <;> simp
  | cons f rest ih =>
    simp only [List.cons_append, verdict]
    cases hs : sigErr f.sig with
    | some e => simp
    | none =>
      simp only []
      cases hset : f.settable
      · cases g
        · simp
        · simpa using ih
      · simp only [if_true, ih]
        cases verdict g pre rest <;> simp
        cases verdict g pre b <;> simp

theorem verdict_map_cons (g : Bool) (pre n : String) (l : List FuncAt) :
    verdict g pre (l.map fun f => { f with path := n :: f.path }) =
      match verdict g (if pre = "" then n else pre ++ "." ++ n) l with
      | .ok st => .ok (st.map fun x => (n :: x.1, x.2))
      | o => o := by
  induction l with
  | nil => simp [verdict]
  | cons f rest ih =>
    simp only [List.map_cons, verdict]
    cases hs : sigErr f.sig with
    | some e => simp
    | none =>
      simp only []
      cases hset : f.settable
      · cases g
        · simp
        · simpa using ih
      · simp only [if_true, ih, joinPath]
        cases verdict g (if pre = "" then n else pre ++ "." ++ n) rest <;> simp

mutual
theorem walkField_eq_verdict (sk : Skeleton) (h : RwStd sk) :
    ∀ (f : Field) (pre : String) (ro : Bool),
      walkField sk pre ro f = verdict sk.rwGuardsUnsettable pre (funcsField ro f)
  | .func n e s, pre, ro => by
    simp only [walkField, funcsField, verdict, h.checks, runChecks_std, h.sets, h.namePath,
      joinName, h.dot, joinPath]
    cases sigErr s with
    | some e => simp
    | none =>
      cases ro <;> cases e <;> cases sk.rwGuardsUnsettable <;> simp
  | .struct n e fs, pre, ro => by
    have ih := walk_eq_verdict sk h fs (joinName sk pre n) (ro || !e)
    simp only [walkField, funcsField, h.recurse, if_true, ih, verdict_map_cons]
    simp only [joinName, h.dot, if_true]
    cases verdict sk.rwGuardsUnsettable (if pre = "" then n else pre ++ "." ++ n) (funcs (ro || !e) fs) <;> simp
  | .other n e, pre, ro => by
    simp [walkField, funcsField, verdict, nonFunc, h.skips]
theorem walk_eq_verdict (sk : Skeleton) (h : RwStd sk) :
    ∀ (fs : List Field) (pre : String) (ro : Bool),
      walk sk pre ro fs = verdict sk.rwGuardsUnsettable pre (funcs ro fs)
  | [], pre, ro => by simp [walk, funcs, verdict]
  | f :: rest, pre, ro => by
    have h1 := walkField_eq_verdict sk h f pre ro
    have h2 := walk_eq_verdict sk h rest pre ro
    simp only [walk, funcs, verdict_append, h1, h2]
    cases verdict sk.rwGuardsUnsettable pre (funcsField ro f) <;> simp only []
    cases verdict sk.rwGuardsUnsettable pre (funcs ro rest) <;> simp only []
end

/-- What each outcome of the scan says about the list.  The three right-hand sides exclude one
    another, so every fact about `verdict` (when it succeeds, which error, when it panics, which
    stubs) is read off this one statement. -/
theorem verdict_spec (g : Bool) (pre : String) (l : List FuncAt) :
    match verdict g pre l with
    | .ok st => (∀ f ∈ l, sigErr f.sig = none ∧ (g = true ∨ f.settable = true)) ∧
        st = (l.filter (·.settable)).map fun f => (f.path, joinPath pre f.path)
    | .err e => l.findSome? (fun f => sigErr f.sig) = some e ∧
        (g = true ∨ ∀ f ∈ l.takeWhile (fun f => (sigErr f.sig).isNone), f.settable = true)
    | .panic => g = false ∧ ∃ f ∈ l.takeWhile (fun f => (sigErr f.sig).isNone), f.settable = false := by
  induction l with
  | nil => simp [verdict]
  | cons f rest ih =>
    simp only [verdict]
    cases hse : sigErr f.sig with
    | some e => simp [hse]
    | none =>
      cases hset : f.settable <;> cases g <;> revert ih <;> cases verdict _ pre rest <;> simp_all

theorem verdict_ok_settable (pre : String) (l : List FuncAt) (st : List (List String × String))
    (h : verdict false pre l = .ok st) : ∀ f ∈ l, f.settable = true := by
  have := verdict_spec false pre l; rw [h] at this
  exact fun f hf => by simpa using (this.1 f hf).2

theorem joinPath_ne (pre : String) (hp : pre ≠ "") (p : List String) :
    joinPath pre p = ".".intercalate (pre :: p) := by
  induction p generalizing pre with
  | nil => simp [joinPath]
  | cons n p ih =>
    simp only [joinPath, hp, if_false]
    rw [ih _ (by simp), String.append_assoc, String.intercalate_cons_append, String.intercalate_cons_append,
      String.intercalate_cons_cons, String.append_assoc]

/-- At the root (`namePrefix = ""`) the function string of the field at path `p` is `p` joined
    with dots, provided the top-level field name is not empty (Go identifiers never are). -/
theorem joinPath_root (p : List String) (h : p.head? ≠ some "") :
    joinPath "" p = ".".intercalate p := by
  cases p with
  | nil => simp [joinPath]
  | cons n p =>
    have hn : n ≠ "" := by simpa using h
    simp only [joinPath, if_true]
    exact joinPath_ne n hn p

/-- the two models' `strings.Split(·, ".")` are the same function -/
theorem _root_.Panrpc.Compose.splitOnDot_agree (cs : List Char) : splitOnDot cs = Lk.splitOnDot cs := by
  induction cs with
  | nil => rfl
  | cons c cs ih =>
    simp only [splitOnDot, Lk.splitOnDot, ih]
    generalize Lk.splitOnDot cs = l
    cases l <;> rfl

theorem splitOnDot_ne_nil (cs : List Char) : splitOnDot cs ≠ [] :=
  Compose.splitOnDot_agree cs ▸ Lk.splitOnDot_ne_nil cs

/-- Round trip caller → callee: splitting the dotted path at the dots (what
    `findMethodByFunctionCallPathRecursively` does with `strings.Split`) yields exactly the
    field names the caller joined, when no name contains a dot. -/
theorem splitOnDot_intercalate (path : List String)
    (hd : ∀ s ∈ path, '.' ∉ s.toList) (hne : path ≠ []) :
    splitOnDot (".".intercalate path).toList = path.map String.toList := by
  rw [Compose.splitOnDot_agree, ← Lk.joinPath_eq_intercalate, Lk.splitOnDot_joinPath path hne hd]

mutual
theorem funcsField_path (ro : Bool) : ∀ (f : Field), ∀ x ∈ funcsField ro f,
    x.path ≠ [] ∧ ∀ s ∈ x.path, s ∈ namesField f
  | .func n e s => by simp [funcsField, namesField]
  | .struct n e fs => by
    simp only [funcsField, List.mem_map, namesField]
    rintro _ ⟨y, hy, rfl⟩
    exact ⟨by simp, by simpa using fun s hs => .inr ((funcs_path (ro || !e) fs y hy).2 s hs)⟩
  | .other n e => by simp [funcsField]
theorem funcs_path (ro : Bool) : ∀ (fs : List Field), ∀ x ∈ funcs ro fs,
    x.path ≠ [] ∧ ∀ s ∈ x.path, s ∈ names fs
  | [] => by simp [funcs]
  | f :: rest => by
    intro x hx
    simp only [funcs, List.mem_append] at hx
    rcases hx with hx | hx
    · have := funcsField_path ro f x hx
      exact ⟨this.1, fun s hs => by simp [names, this.2 s hs]⟩
    · have := funcs_path ro rest x hx
      exact ⟨this.1, fun s hs => by simp [names, this.2 s hs]⟩
end

theorem funcs_append (ro : Bool) (a b : List Field) : funcs ro (a ++ b) = funcs ro a ++ funcs ro b := by
  induction a with
  | nil => rfl
  | cons f a ih => simp only [List.cons_append, funcs, ih, List.append_assoc]

mutual
theorem funcsField_dropOther (ro : Bool) : ∀ f : Field, funcs ro (dropOtherField f) = funcsField ro f
  | .func .. => by simp only [dropOtherField, funcs, List.append_nil]
  | .struct n e inner => by
    simp only [dropOtherField, funcs, funcsField, List.append_nil, funcs_dropOther (ro || !e) inner]
  | .other .. => rfl
theorem funcs_dropOther (ro : Bool) : ∀ fs : List Field, funcs ro (dropOther fs) = funcs ro fs
  | [] => rfl
  | f :: fs => by rw [dropOther, funcs_append, funcsField_dropOther ro f, funcs_dropOther ro fs, funcs]
end

/-- `other` fields never influence the outcome: the loop only sees the flattened type. -/
theorem walk_dropOther (sk : Skeleton) (h : RwStd sk) (fs : List Field) (pre : String) (ro : Bool) :
    walk sk pre ro (dropOther fs) = walk sk pre ro fs := by
  rw [walk_eq_verdict sk h, walk_eq_verdict sk h, funcs_dropOther]

theorem not_allValid_iff (fs : List Field) : ¬ AllValid fs ↔ ∃ e, firstInvalid fs = some e := by
  rw [← Option.isSome_iff_exists, firstInvalid, List.findSome?_isSome_iff]
  simp [AllValid, ← sigErr_none_iff, Option.isSome_iff_ne_none]

/-- `verdict_spec` for `Link`, in the words of the specification. -/
theorem link_spec (sk : Skeleton) (h : RwStd sk) (fs : List Field) :
    match walk sk "" false fs with
    | .ok stubs => AllValid fs ∧ (sk.rwGuardsUnsettable = true ∨ Settable fs) ∧
        stubs = ((funcs false fs).filter (·.settable)).map fun f => (f.path, joinPath "" f.path)
    | .err e => firstInvalid fs = some e ∧ (sk.rwGuardsUnsettable = true ∨ SettableUpToFirstInvalid fs)
    | .panic => sk.rwGuardsUnsettable = false ∧ ¬ Settable fs ∧ ¬ SettableUpToFirstInvalid fs := by
  have := verdict_spec sk.rwGuardsUnsettable "" (funcs false fs)
  rw [walk_eq_verdict sk h]
  cases hv : verdict sk.rwGuardsUnsettable "" (funcs false fs) <;> simp only [hv] at this ⊢
  · refine ⟨fun f hf => (sigErr_none_iff _).mp (this.1 f hf).1, ?_, this.2⟩
    cases hg : sk.rwGuardsUnsettable
    · exact Or.inr fun f hf => by simpa [hg] using (this.1 f hf).2
    · exact Or.inl rfl
  · exact this
  · obtain ⟨hg, f, hf, hn⟩ := this
    exact ⟨hg, fun hs => by simp [hs f (List.takeWhile_subset _ hf)] at hn, fun hs => by simp [hs f hf] at hn⟩

/-- every installed stub is a settable func field of valid signature, sending the name the Go code joins for its path -/
theorem walk_stub_mem (sk : Skeleton) (h : RwStd sk) (fs : List Field) (stubs : List (List String × String))
    (hw : walk sk "" false fs = .ok stubs) (p : List String) (fn : String) (hm : (p, fn) ∈ stubs) :
    ∃ x ∈ funcs false fs, x.settable = true ∧ ValidSig x.sig ∧ p = x.path ∧ fn = joinPath "" p := by
  have := link_spec sk h fs; rw [hw] at this
  rw [this.2.2] at hm
  simp only [List.mem_map, List.mem_filter, Prod.mk.injEq] at hm
  obtain ⟨x, ⟨hx, hs⟩, rfl, rfl⟩ := hm
  exact ⟨x, hx, hs, this.1 x hx, rfl, rfl⟩

end Panrpc.Rw
