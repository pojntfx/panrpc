/-
  Lemmas/Split.lean — `strings.Split(·, ".")` and `strings.Join(·, ".")` as the lookup model has them
  (`Lk.splitOnDot`, `Lk.joinDot`, `Lk.joinPath`): each undoes the other on dot-free segments, and
  `joinPath` is the standard library's `String.intercalate "."`.  The remote-definition side
  (Lemmas/RemoteDef.lean) has a copy of `splitOnDot`; it is proved equal there and takes its lemmas
  from here.
-/
import Panrpc.Model.Lookup

namespace Panrpc.Lk

theorem splitOnDot_ne_nil (cs : List Char) : splitOnDot cs ≠ [] := by
  cases cs with
  | nil => simp [splitOnDot]
  | cons c cs =>
    simp only [splitOnDot]
    split
    · simp
    · split <;> simp

theorem joinDot_cons_cons (s t : List Char) (rest : List (List Char)) :
    joinDot (s :: t :: rest) = s ++ '.' :: joinDot (t :: rest) := rfl

theorem joinDot_splitOnDot (cs : List Char) : joinDot (splitOnDot cs) = cs := by
  induction cs with
  | nil => rfl
  | cons c cs ih =>
    obtain ⟨seg, segs, h⟩ := List.exists_cons_of_ne_nil (splitOnDot_ne_nil cs)
    rw [h] at ih
    simp only [splitOnDot, h]
    split
    · next hc => rw [hc, joinDot_cons_cons, ih]; rfl
    · cases segs <;> simpa [joinDot] using ih

/-- a dot-free prefix stays in the first segment -/
theorem splitOnDot_append (s t : List Char) (h : '.' ∉ s) :
    splitOnDot (s ++ t) = (s ++ (splitOnDot t).head (splitOnDot_ne_nil t)) :: (splitOnDot t).tail := by
  induction s with
  | nil => simp
  | cons c cs ih =>
    have hc : c ≠ '.' := fun e => h (by simp [e])
    have hcs : '.' ∉ cs := fun e => h (by simp [e])
    simp [splitOnDot, hc, ih hcs]

theorem splitOnDot_joinDot (segs : List (List Char)) (hne : segs ≠ [])
    (hd : ∀ s ∈ segs, '.' ∉ s) : splitOnDot (joinDot segs) = segs := by
  induction segs with
  | nil => exact absurd rfl hne
  | cons s rest ih =>
    cases rest with
    | nil => simpa [joinDot, splitOnDot] using splitOnDot_append s [] (hd s (by simp))
    | cons t rest' =>
      rw [joinDot_cons_cons, splitOnDot_append _ _ (hd s (by simp))]
      simp [splitOnDot, ih (by simp) (fun x hx => hd x (by simp [hx]))]

theorem joinPath_pathParts (cs : String) :
    joinPath ((splitOnDot cs.toList).map String.ofList) = cs := by
  simp [joinPath, List.map_map, Function.comp_def, String.toList_ofList, joinDot_splitOnDot, String.ofList_toList]

/-- the caller joins, the callee splits: dot-free names come back as they were -/
theorem splitOnDot_joinPath (l : List String) (hne : l ≠ []) (hd : ∀ s ∈ l, '.' ∉ s.toList) :
    splitOnDot (joinPath l).toList = l.map String.toList := by
  rw [joinPath, String.toList_ofList, splitOnDot_joinDot _ (by simpa using hne) (by simpa using hd)]

theorem joinDot_eq_intercalate (xs : List (List Char)) : joinDot xs = ['.'].intercalate xs := by
  induction xs with
  | nil => simp [joinDot, List.intercalate]
  | cons s rest ih =>
    cases rest with
    | nil => simp [joinDot, List.intercalate]
    | cons t rest' =>
      rw [joinDot_cons_cons, ih]
      simp [List.intercalate, List.intersperse]

/-- `joinPath` is the standard library's `String.intercalate "."` (Go: `strings.Join(segs, ".")`) -/
theorem joinPath_eq_intercalate (l : List String) : joinPath l = ".".intercalate l := by
  rw [← String.toList_inj, String.toList_intercalate, joinPath, String.toList_ofList, joinDot_eq_intercalate]
  rfl

end Panrpc.Lk
