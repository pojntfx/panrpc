/-
  Lemmas/StreamParam.lean — C08: the stream model (Model/Stream.lean) is blind to payload content.

  Payloads are `Nat`s there; the decoder goroutine, the two hand-off channels and the read adapters move them around
  and never look at them.  As a theorem: for every relabelling `g` of the payloads, `step` commutes with `mapState g`,
  which applies `g` to every payload a state holds.  No action of the model carries a payload, so actions are not
  mapped.  With `g := fun _ => 0`: what happens depends only on the *shape* of the decoded stream (which envelopes
  have which members, where the decode error is).

  No hypothesis on the skeleton anywhere in this file.
-/
import Panrpc.Lemmas.Stream

namespace Panrpc.St

def Envelope.map (g : Payload → Payload) (e : Envelope) : Envelope :=
  { req := e.req.map g, res := e.res.map g }

def Dec.map (g : Payload → Payload) : Dec → Dec
  | .reading => .reading
  | .handReq p next => .handReq (g p) (next.map g)
  | .handRes p => .handRes (g p)
  | .failing k => .failing k
  | .done => .done

/-- the results `decode` is going to produce / has produced, relabelled (errors stay errors) -/
def mapInp (g : Payload → Payload) (l : List (Option Envelope)) : List (Option Envelope) :=
  l.map (Option.map (Envelope.map g))

def mapState (g : Payload → Payload) (s : State) : State :=
  { s with inp := mapInp g s.inp, consumed := mapInp g s.consumed, dec := s.dec.map g,
           gotReq := s.gotReq.map g, gotRes := s.gotRes.map g,
           lostReq := s.lostReq.map g, lostRes := s.lostRes.map g, carry := s.carry.map g }

/-- everything in a state that is not a payload: control state of the three goroutines, the
    error variable, the channel, the errors the readers got, and *how many* values they got -/
structure Ctrl where
  decShape    : Dec
  nInp        : Nat
  nConsumed   : Nat
  decodeErr   : Option StErr
  decodeDone  : Bool
  reqRd       : Rd
  resRd       : Rd
  linkCtxDone : Bool
  crashed     : Bool
  nGotReq     : Nat
  nGotRes     : Nat
  reqEnd      : Option (Option StErr)
  resEnd      : Option (Option StErr)
  nLostReq    : Nat
  nLostRes    : Nat
  deriving DecidableEq, Repr

def ctrl (s : State) : Ctrl :=
  { decShape := s.dec.map (fun _ => 0), nInp := s.inp.length, nConsumed := s.consumed.length,
    decodeErr := s.decodeErr, decodeDone := s.decodeDone,
    reqRd := s.reqRd, resRd := s.resRd, linkCtxDone := s.linkCtxDone, crashed := s.crashed,
    nGotReq := s.gotReq.length, nGotRes := s.gotRes.length, reqEnd := s.reqEnd, resEnd := s.resEnd,
    nLostReq := s.lostReq.length, nLostRes := s.lostRes.length }

section Map
variable (g : Payload → Payload)

theorem Dec.map_map (d : Dec) (g' : Payload → Payload) : (d.map g).map g' = d.map (fun p => g' (g p)) := by
  cases d with
  | handReq p next => cases next <;> rfl
  | _ => rfl

theorem Dec.map_eq_reading (d : Dec) : d.map g = .reading ↔ d = .reading := by
  cases d <;> simp [Dec.map]

theorem afterDecode_map (sk : Skeleton) (env : Envelope) :
    afterDecode sk (env.map g) = (afterDecode sk env).map g := by
  obtain ⟨rq, rs⟩ := env
  simp only [afterDecode, Envelope.map]
  cases sk.stDecoderHandsRequests <;> cases sk.stDecoderHandsResponses <;>
    cases rq <;> cases rs <;> rfl

theorem over_map (env old : Envelope) : (env.map g).over (old.map g) = (env.over old).map g := by
  obtain ⟨rq, rs⟩ := env
  obtain ⟨oq, os⟩ := old
  cases rq <;> cases rs <;> cases oq <;> cases os <;> rfl

theorem decoded_map (sk : Skeleton) (carry env : Envelope) :
    decoded sk (carry.map g) (env.map g) = (decoded sk carry env).map g := by
  simp only [decoded]
  cases sk.stMsgFreshPerIteration with
  | true => rfl
  | false => exact over_map g env carry

theorem closeDone_map (s : State) : closeDone (mapState g s) = mapState g (closeDone s) := by
  simp only [closeDone_eq]; rfl

theorem leave_map (sk : Skeleton) (s : State) : leave sk (mapState g s) = mapState g (leave sk s) := by
  simp only [leave]
  cases sk.stDoneClosedOncePerExit with
  | true => rfl
  | false => exact closeDone_map g s

theorem abortWith_map (signal : Bool) (s : State) :
    abortWith signal (mapState g s) = mapState g (abortWith signal s) := by
  cases signal with
  | false => rfl
  | true =>
    simp only [abortWith, if_true]
    exact closeDone_map g { s with decodeErr := some .ctx }

theorem mapInp_length (l : List (Option Envelope)) : (mapInp g l).length = l.length := by
  simp [mapInp]

theorem mapInp_append (l l' : List (Option Envelope)) : mapInp g (l ++ l') = mapInp g l ++ mapInp g l' := by
  simp [mapInp]

theorem Step.cast {t t' : State} (h : Step sk s a t) (e : t = t') : Step sk s a t' := e ▸ h

/-- no guard looks at a payload and every effect moves payloads without looking at them -/
theorem Step.map (h : Step sk s a s') : Step sk (mapState g s) a (mapState g s') := by
  have hd {d} (h : s.dec = d) : (mapState g s).dec = d.map g := congrArg (Dec.map g) h
  have hi {l} (h : s.inp = l) : (mapState g s).inp = mapInp g l := congrArg (mapInp g) h
  cases h with
  | readEnv hc h1 h2 =>
    exact (Step.readEnv (s := mapState g s) hc (hd h1) (hi h2)).cast (by
      simp [mapState, mapInp, decoded_map, afterDecode_map, apply_ite (Envelope.map g)])
  | readErr hc h1 h2 =>
    exact (Step.readErr (s := mapState g s) hc (hd h1) (hi h2)).cast (by
      simp only [apply_ite (mapState g), ← closeDone_map]; simp [mapState, mapInp, Dec.map])
  | finish hc h1 =>
    exact (Step.finish (s := mapState g s) hc (hd h1)).cast (by
      cases sk.stDecoderExitsOnErr <;>
        (simp only [apply_ite (mapState g), ← closeDone_map, ← leave_map]; simp [mapState, mapInp, Dec.map]))
  | @handReq _ next hc hw h1 =>
    cases next <;> exact (Step.handReq (s := mapState g s) hc hw (hd h1)).cast (by simp [mapState, mapInp, Dec.map])
  | handRes hc hw h1 =>
    exact (Step.handRes (s := mapState g s) hc hw (hd h1)).cast (by simp [mapState, mapInp, Dec.map])
  | @abortReq _ _ next hc hg hx hs h1 =>
    cases next <;> exact (Step.abortReq (s := mapState g s) hc hg hx hs (hd h1)).cast (by
      simp only [← leave_map, ← abortWith_map]; simp [mapState, mapInp, Dec.map])
  | abortRes hc hg hx hs h1 =>
    exact (Step.abortRes (s := mapState g s) hc hg hx hs (hd h1)).cast (by
      simp only [← leave_map, ← abortWith_map]; simp [mapState, mapInp, Dec.map])
  | _ => constructor <;> assumption

/-- …and no guard holds of the relabelled state only: a step of `mapState g s` is a step of `s` -/
theorem Step.unmap {t : State} (h : Step sk (mapState g s) a t) : ∃ s', Step sk s a s' := by
  cases h with
  | readEnv hc h1 h2 =>
    match hs : s.inp with
    | some _ :: _ => exact ⟨_, .readEnv hc ((Dec.map_eq_reading g _).mp h1) hs⟩
    | [] | none :: _ => simp [mapState, hs, mapInp] at h2
  | readErr hc h1 h2 =>
    match hs : s.inp with
    | none :: _ => exact ⟨_, .readErr hc ((Dec.map_eq_reading g _).mp h1) hs⟩
    | [] | some _ :: _ => simp [mapState, hs, mapInp] at h2
  | finish hc h1 => cases hs : s.dec <;> simp [mapState, hs, Dec.map] at h1; exact ⟨_, .finish hc hs⟩
  | handReq hc hw h1 => cases hs : s.dec <;> simp [mapState, hs, Dec.map] at h1; exact ⟨_, .handReq hc hw hs⟩
  | handRes hc hw h1 => cases hs : s.dec <;> simp [mapState, hs, Dec.map] at h1; exact ⟨_, .handRes hc hw hs⟩
  | abortReq hc hg hx hc' h1 =>
    cases hs : s.dec <;> simp [mapState, hs, Dec.map] at h1; exact ⟨_, .abortReq hc hg hx hc' hs⟩
  | abortRes hc hg hx hc' h1 =>
    cases hs : s.dec <;> simp [mapState, hs, Dec.map] at h1; exact ⟨_, .abortRes hc hg hx hc' hs⟩
  | _ => exact ⟨_, by constructor <;> assumption⟩

/-- **`step` commutes with relabelling the payloads**, for every skeleton, state and action. -/
theorem step_map (sk : Skeleton) (s : State) (a : Act) :
    (step sk s a).map (mapState g) = step sk (mapState g s) a := by
  cases h : step sk s a with
  | some s' => exact ((Step.of_step h).map g).to_step.symm
  | none =>
    cases h' : step sk (mapState g s) a with
    | none => rfl
    | some t =>
      obtain ⟨s', hs'⟩ := (Step.of_step h').unmap g
      rw [hs'.to_step] at h; cases h

theorem init_map (inp : List (Option Envelope)) : mapState g (init inp) = init (mapInp g inp) := rfl

theorem run_map (sk : Skeleton) (s : State) (acts : List Act) :
    (run sk s acts).map (mapState g) = run sk (mapState g s) acts := by
  induction acts generalizing s with
  | nil => rfl
  | cons a as ih =>
    simp only [run, runFrom]
    rw [← step_map]
    cases step sk s a with
    | none => rfl
    | some s1 => exact ih s1

theorem reach_map (sk : Skeleton) {inp : List (Option Envelope)} {s : State} (h : Reach sk inp s) :
    Reach sk (mapInp g inp) (mapState g s) := by
  induction h with
  | init => exact Reach.init
  | step a _ hs ih =>
    refine Reach.step a ih ?_
    rw [← step_map, hs]; rfl

theorem step_enabled_map (sk : Skeleton) (s : State) (a : Act) :
    (step sk (mapState g s) a).isSome = (step sk s a).isSome := by
  rw [← step_map]; cases step sk s a <;> rfl

theorem run_enabled_map (sk : Skeleton) (s : State) (acts : List Act) :
    (run sk (mapState g s) acts).isSome = (run sk s acts).isSome := by
  rw [← run_map]; cases run sk s acts <;> rfl

theorem ctrl_map (s : State) : ctrl (mapState g s) = ctrl s := by
  simp [ctrl, mapState, mapInp, Dec.map_map]

theorem reqsOf_map (l : List (Option Envelope)) : reqsOf (mapInp g l) = (reqsOf l).map g := by
  simp only [reqsOf, mapInp, List.filterMap_map, List.map_filterMap]
  congr; funext o; cases o <;> rfl

theorem ressOf_map (l : List (Option Envelope)) : ressOf (mapInp g l) = (ressOf l).map g := by
  simp only [ressOf, mapInp, List.filterMap_map, List.map_filterMap]
  congr; funext o; cases o <;> rfl

theorem pendReq_map (d : Dec) : pendReq (d.map g) = (pendReq d).map g := by
  cases d <;> rfl

theorem pendRes_map (d : Dec) : pendRes (d.map g) = (pendRes d).map g := by
  cases d with
  | handReq p next => cases next <;> rfl
  | _ => rfl

theorem writeReq_map (sk : Skeleton) (b : Payload) (o : Option Payload) :
    writeReq sk (g b) (o.map g) = (writeReq sk b o).map g := by
  simp only [writeReq, Envelope.map]
  cases sk.stEncodeRequestOnly <;> rfl

theorem writeRes_map (sk : Skeleton) (b : Payload) (o : Option Payload) :
    writeRes sk (g b) (o.map g) = (writeRes sk b o).map g := by
  simp only [writeRes, Envelope.map]
  cases sk.stEncodeResponseOnly <;> rfl

end Map

/-- **Payload blindness.**  Under every schedule, from the relabelled input: the schedule is
    enabled iff it was; the values the two read adapters returned are the `g`-images of the values
    they returned before, in the same order; the errors they returned and all control state are
    the same. -/
theorem run_observables_map (g : Payload → Payload) (sk : Skeleton) (inp : List (Option Envelope))
    (acts : List Act) :
    run sk (init (mapInp g inp)) acts = (run sk (init inp) acts).map (mapState g) ∧
    (run sk (init (mapInp g inp)) acts).map (·.gotReq) = (run sk (init inp) acts).map (·.gotReq.map g) ∧
    (run sk (init (mapInp g inp)) acts).map (·.gotRes) = (run sk (init inp) acts).map (·.gotRes.map g) ∧
    (run sk (init (mapInp g inp)) acts).map (·.reqEnd) = (run sk (init inp) acts).map (·.reqEnd) ∧
    (run sk (init (mapInp g inp)) acts).map (·.resEnd) = (run sk (init inp) acts).map (·.resEnd) ∧
    (run sk (init (mapInp g inp)) acts).map ctrl = (run sk (init inp) acts).map ctrl := by
  have h : run sk (init (mapInp g inp)) acts = (run sk (init inp) acts).map (mapState g) := by
    rw [← init_map, run_map]
  rw [h]
  refine ⟨rfl, ?_, ?_, ?_, ?_, ?_⟩ <;> cases run sk (init inp) acts <;>
    first | rfl | simp only [Option.map_some, ctrl_map]

/-- Two decoded streams of the same shape (equal after erasing the payloads) behave alike under
    every schedule: same enabledness, same control state, same errors, same *number* of values
    delivered to each loop. -/
theorem run_ctrl_of_same_shape (sk : Skeleton) (inp₁ inp₂ : List (Option Envelope))
    (hshape : mapInp (fun _ => 0) inp₁ = mapInp (fun _ => 0) inp₂) (acts : List Act) :
    (run sk (init inp₁) acts).map ctrl = (run sk (init inp₂) acts).map ctrl := by
  have h1 := (run_observables_map (fun _ => 0) sk inp₁ acts).2.2.2.2.2
  have h2 := (run_observables_map (fun _ => 0) sk inp₂ acts).2.2.2.2.2
  rw [← h1, ← h2, hshape]

end Panrpc.St
