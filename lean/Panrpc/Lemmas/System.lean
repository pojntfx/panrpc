/-
  Lemmas/System.lean — M3: source facts the correlation theorems rest on, and the inductive invariants of the
  two-endpoint system with their preservation: CInv (call threads, pending table), RInv (request frames,
  handler threads, the `served` map), VInv (handler returns, invocation log), SInv (response frames,
  publishers, results, delivery log), LInv (the two loops).

  Facts of the form "thread `k` has got this far with this data" (`Sent`, `Answered`) are stable under every
  step; the provenance clauses carry them, so that a step only has to account for the frame, publisher or
  result it creates.
-/
import Panrpc.Lemmas.SystemStep

namespace Panrpc.Sys

/-- Source facts of the correlation core (all read off rpc/registry.go by the extractor). -/
structure Facts (sk : Skeleton) : Prop where
  fresh    : sk.stubCallIdFresh = true
  recvKey  : sk.stubReceiveKeyIsCallId = true
  reqCall  : sk.stubRequestCallIsCallId = true
  reqFn    : sk.stubRequestFunctionIsName = true
  oneCall  : sk.reqCallViaUtilsCall = true
  resCall  : sk.reqResponseCallIsReqCall = true
  oneResp  : sk.reqOneResponsePerBranch = true
  pubKey   : sk.respPublishKeyIsResCall = true
  pubVal   : sk.respPublishValueIsResValue = true

/-- Source facts: neither loop runs anything that can wait.  Resolver, handler and `Publish` run in
    goroutines of their own, and what is left of the loop bodies (between two reads) holds no channel
    operation, select, lock or wait — which is what lets `reqDeliver` / `resDeliver` be modelled as
    always enabled when a frame is there, for ANY number of handlers in flight (no admission limit). -/
structure Async (sk : Skeleton) : Prop where
  resolveGo : sk.reqResolveGoDepth ≠ 0
  handlerGo : sk.reqHandlerGoDepth ≠ 0
  publishGo : sk.respPublishAsync = true
  reqOnlyRead : sk.reqLoopBlocksOnlyOnRead = true
  resOnlyRead : sk.respLoopBlocksOnlyOnRead = true
  wrappers : sk.ioWrappersNonBlocking = true    -- the write wrapper never waits (no window on requests in flight)

theorem key_ne_of_mem_eraseIdx {α : Type} (g : α → Nat) (l : List α) (i : Nat) (x y : α)
    (hn : (l.map g).Nodup) (hx : l[i]? = some x) (hy : y ∈ l.eraseIdx i) : g y ≠ g x := by
  obtain ⟨j, hji, hj⟩ := List.mem_eraseIdx_iff_getElem?.mp hy
  intro he
  refine hji ((List.getElem?_inj (by simpa using (List.getElem?_eq_some_iff.mp hj).1) hn).mp ?_)
  rw [List.getElem?_map, List.getElem?_map, hj, hx, Option.map_some, Option.map_some, he]

theorem nodup_map_eraseIdx {α : Type} (g : α → Nat) (l : List α) (i : Nat)
    (h : (l.map g).Nodup) : ((l.eraseIdx i).map g).Nodup :=
  ((List.eraseIdx_sublist l i).map g).nodup h

theorem nodup_map_append_singleton {α : Type} (g : α → Nat) (l : List α) (x : α)
    (h : (l.map g).Nodup) (hx : ∀ y, y ∈ l → g y ≠ g x) : ((l ++ [x]).map g).Nodup := by
  rw [List.map_append, List.nodup_append]
  exact ⟨h, by simp, by simpa using hx⟩

section
variable {sk : Skeleton} {s s' : State} {a : Act}

structure CInv (s : State) : Prop where
  call_lt : ∀ e t, (s.calls e t).pc ≠ .absent → t < s.nextCall e
  call_id : ∀ e t, (s.calls e t).pc ≠ .absent → (s.calls e t).id = t
  pend    : ∀ e k, s.pending e k = true → (s.calls e k).pc.waiting = true ∧ (s.calls e k).result = none
  res_pc  : ∀ e t, (s.calls e t).result ≠ none → (s.calls e t).pc.waiting = true ∨ (s.calls e t).pc = .returned
  ret_res : ∀ e t, (s.calls e t).pc = .returned → (s.calls e t).result ≠ none
  wait_pend : ∀ e t, (s.calls e t).pc.waiting = true → (s.calls e t).result = none → s.pending e t = true

theorem cinv_init : CInv init := by
  constructor <;> simp [init, CPc.waiting]

theorem cinv_step (hf : Facts sk) (h : CInv s) (hs : Step sk s a s') : CInv s' where
  call_lt := by
    have := h.call_lt
    inv_cases hs
  call_id := by
    have := h.call_id; have := hf.fresh
    inv_cases hs
  pend := by
    have := h.pend; have := h.res_pc; have := h.call_id; have := h.call_lt
    have := hf.fresh; have := hf.recvKey
    inv_cases hs [CPc.waiting, recvKey]
  res_pc := by
    have := h.res_pc
    inv_cases hs [CPc.waiting]
  ret_res := by
    have := h.ret_res
    inv_cases hs
  wait_pend := by
    have := h.wait_pend; have := h.call_id; have := hf.fresh; have := hf.recvKey
    inv_cases hs [CPc.waiting, recvKey]

/-- the pending table is a function of the call threads: the waiting calls that have not been handed a result -/
theorem CInv.pending_iff (h : CInv s) (e : E) (t : Nat) :
    s.pending e t = true ↔ (s.calls e t).pc.waiting = true ∧ (s.calls e t).result = none :=
  ⟨h.pend e t, fun ⟨hw, hr⟩ => h.wait_pend e t hw hr⟩

theorem CPc.waiting_iff {pc : CPc} : pc.waiting = true ↔ pc = .registered ∨ pc = .written := by
  cases pc <;> simp [CPc.waiting]

theorem CPc.ne_absent_of_waiting {pc : CPc} (h : pc.waiting = true) : pc ≠ .absent := by
  rintro rfl; cases h

def Sent (s : State) (x : E) (f : ReqFrame) : Prop :=
  (s.calls x f.call).pc.wrote = true ∧ (s.calls x f.call).fn = f.fn ∧ (s.calls x f.call).args = f.args

theorem Sent.step (hc : CInv s) (hs : Step sk s a s') (x : E) (f : ReqFrame) (h : Sent s x f) : Sent s' x f := by
  have := hc.call_lt
  unfold Sent at *
  inv_cases hs [CPc.wrote]

theorem Sent.ne_absent {x : E} {f : ReqFrame} (h : Sent s x f) : (s.calls x f.call).pc ≠ .absent := fun h0 => by
  have := h.1; rw [h0] at this; cases this

structure RInv (s : State) : Prop where
  req_prov  : ∀ e f, f ∈ s.reqs e → Sent s (peer e) f
  req_fresh : ∀ e f, f ∈ s.reqs e → s.served e f.call = false
  req_nodup : ∀ e, ((s.reqs e).map ReqFrame.call).Nodup
  h_served  : ∀ e h, (s.handlers e h).pc ≠ .absent → s.served e (s.handlers e h).req.call = true
  h_by      : ∀ e h, (s.handlers e h).pc ≠ .absent → s.servedBy e (s.handlers e h).req.call = h
  h_prov    : ∀ e h, (s.handlers e h).pc ≠ .absent → Sent s (peer e) (s.handlers e h).req
  h_lt      : ∀ e h, (s.handlers e h).pc ≠ .absent → h < s.nextHandler e
  served_h  : ∀ e k, s.served e k = true →
    (s.handlers e (s.servedBy e k)).pc ≠ .absent ∧ (s.handlers e (s.servedBy e k)).req.call = k

theorem rinv_init : RInv init := by
  constructor <;> simp [init]

theorem rinv_step (hf : Facts sk) (hc : CInv s) (h : RInv s) (hs : Step sk s a s') : RInv s' where
  req_prov := by
    have st := Sent.step hc hs
    have := h.req_prov
    cases hs
    case callWrite e t _ hpc | callWriteUnreg e t _ hpc =>
      have := hc.call_id e t (by rw [hpc]; simp); have := hf.reqCall; have := hf.reqFn
      intros; grind [mkReq, Sent, CPc.wrote]
    all_goals first | assumption | (intros; grind [List.mem_of_mem_eraseIdx])
  req_fresh := by
    have := h.req_fresh; have := h.req_nodup; have := h.h_prov; have := h.served_h; have := hc.call_id
    have := hf.reqCall
    inv_cases hs [CPc.wrote, mkReq, Sent, key_ne_of_mem_eraseIdx, List.mem_of_mem_eraseIdx]
  req_nodup := by
    have := h.req_nodup; have := h.req_prov; have := hc.call_id
    have := hf.reqCall
    inv_cases hs [CPc.wrote, mkReq, Sent]
  h_served := by
    have := h.h_served
    inv_cases hs
  h_by := by
    have := h.h_served; have := h.h_by; have := h.req_fresh
    inv_cases hs
  h_prov := by
    have st := Sent.step hc hs
    have := h.req_prov; have := h.h_prov
    inv_cases hs
  h_lt := by
    have := h.h_lt
    inv_cases hs
  served_h := by
    have := h.served_h; have := h.h_lt
    inv_cases hs

/-- number of invocation records made by handler thread `h` of `e` -/
def invCount (l : List Invocation) (e : E) (h : Nat) : Nat :=
  l.countP fun r => decide (r.ep = e ∧ r.h = h)

/-- number of invocation records on endpoint `e` for call id `k` -/
def invCountCall (l : List Invocation) (e : E) (k : Nat) : Nat :=
  l.countP fun r => decide (r.ep = e ∧ r.call = k)

theorem invCount_nil (e : E) (h : Nat) : invCount [] e h = 0 := rfl

theorem invCount_append (l l' : List Invocation) (e : E) (h : Nat) :
    invCount (l ++ l') e h = invCount l e h + invCount l' e h := by
  simp [invCount, List.countP_append]

theorem invCount_mkInv (sk : Skeleton) (hf : sk.reqCallViaUtilsCall = true) (e e' : E) (h h' : Nat) (req : ReqFrame) :
    invCount (mkInv sk e h req) e' h' = if e = e' ∧ h = h' then 1 else 0 := by
  simp [mkInv, hf, invCount, List.countP_cons]

/-- `setRet` touches the `ret` member only -/
theorem setRet_eq (e : E) (h : Nat) (v : Nat × Nat) (r : Invocation) :
    setRet e h v r = { r with ret := if r.ep = e ∧ r.h = h then some v else r.ret } := by
  simp only [setRet]; split <;> simp [*]

theorem invCount_map_setRet (l : List Invocation) (e e' : E) (h h' : Nat) (v : Nat × Nat) :
    invCount (l.map (setRet e h v)) e' h' = invCount l e' h' := by
  simp [invCount, List.countP_map, Function.comp_def, setRet_eq]

theorem invCountCall_map_setRet (l : List Invocation) (e e' : E) (h k : Nat) (v : Nat × Nat) :
    invCountCall (l.map (setRet e h v)) e' k = invCountCall l e' k := by
  simp [invCountCall, List.countP_map, Function.comp_def, setRet_eq]

theorem mem_mkInv_iff {sk : Skeleton} {e : E} {h : Nat} {req : ReqFrame} {r : Invocation} :
    r ∈ mkInv sk e h req ↔
      r = { ep := e, h := h, call := req.call, fn := req.fn, args := req.args, ret := none } := by
  simp only [mkInv]; split <;> simp

structure VInv (s : State) : Prop where
  ret_some : ∀ e h, (s.handlers e h).pc = .returned ∨ (s.handlers e h).pc = .finished → (s.handlers e h).ret ≠ none
  ret_none : ∀ e h, (s.handlers e h).pc ≠ .returned → (s.handlers e h).pc ≠ .finished → (s.handlers e h).ret = none
  inv_h    : ∀ r, r ∈ s.invocations →
    (s.handlers r.ep r.h).pc.entered = true ∧ r.call = (s.handlers r.ep r.h).req.call ∧
    r.fn = (s.handlers r.ep r.h).req.fn ∧ r.args = (s.handlers r.ep r.h).req.args ∧
    r.ret = (s.handlers r.ep r.h).ret
  inv_cnt  : ∀ e h, invCount s.invocations e h = if (s.handlers e h).pc.entered = true then 1 else 0

theorem vinv_init : VInv init := by
  constructor <;> simp [init, invCount, HPc.entered]

theorem vinv_step (hf : Facts sk) (hr : RInv s) (h : VInv s) (hs : Step sk s a s') : VInv s' where
  ret_some := by
    have := h.ret_some
    inv_cases hs
  ret_none := by
    have := h.ret_none
    inv_cases hs
  inv_h := by
    have := h.inv_h; have := h.ret_none; have := hr.h_lt
    inv_cases hs [HPc.entered, mem_mkInv_iff, setRet_eq]
  inv_cnt := by
    have := h.inv_cnt; have := hr.h_lt; have := hf.oneCall
    inv_cases hs [HPc.entered, invCount_append, invCount_mkInv, invCount_map_setRet]

def Pub.frame : Pub → Option ResFrame
  | .absent => none
  | .pending f => some f
  | .done f _ => some f

def Answered (s : State) (x : E) (k : Nat) (r : Nat × Nat) : Prop :=
  s.served x k = true ∧ (s.handlers x (s.servedBy x k)).pc = .finished ∧
  (s.handlers x (s.servedBy x k)).ret = some r

theorem Answered.step (hr : RInv s) (hs : Step sk s a s') (x : E) (k : Nat) (r : Nat × Nat)
    (h : Answered s x k r) : Answered s' x k r := by
  have := hr.req_fresh; have := hr.h_lt
  unfold Answered at *
  inv_cases hs

structure SInv (s : State) : Prop where
  /-- every response frame in flight was built by the handler thread of the request with that id,
      from that handler's return -/
  res_prov    : ∀ e f, f ∈ s.ress e → Answered s (peer e) f.call (f.value, f.err)
  /-- … and so was every response frame a publisher carries or carried -/
  pub_prov    : ∀ e p f, (s.pubs e p).frame = some f → Answered s (peer e) f.call (f.value, f.err)
  pub_lt      : ∀ e p, s.pubs e p ≠ .absent → p < s.nextPub e
  /-- the result a call's waiter was handed is the return of the handler thread of its request -/
  result_prov : ∀ e t r, (s.calls e t).result = some r → Answered s (peer e) t r
  deliv       : ∀ d, d ∈ s.deliveries → d.frameCall = d.waiterId ∧ d.waiterId = d.waiter

theorem sinv_init : SInv init := by
  constructor <;> simp [init, Pub.frame]

theorem sinv_step (hf : Facts sk) (hc : CInv s) (hr : RInv s) (h : SInv s) (hs : Step sk s a s') : SInv s' where
  res_prov := by
    have st := Answered.step hr hs
    have := h.res_prov
    cases hs
    case respond =>
      have := hr.h_served; have := hr.h_by; have := hf.resCall; have := hf.oneResp
      intros; grind [mkRes, Answered]
    all_goals first | assumption | (intros; grind [List.mem_of_mem_eraseIdx])
  pub_prov := by
    have st := Answered.step hr hs
    have := h.res_prov; have := h.pub_prov
    inv_cases hs [Pub.frame]
  pub_lt := by
    have := h.pub_lt
    inv_cases hs
  result_prov := by
    have st := Answered.step hr hs
    have h2 := h.pub_prov; have := h.result_prov
    cases hs
    case publish e p t f hp hk hid hw hres =>
      have := h2 e p f (by rw [hp]; rfl)
      have := hc.call_id e t (CPc.ne_absent_of_waiting hw)
      have := hf.pubKey; have := hf.pubVal
      intros; grind [pubKey, pubVal]
    all_goals first | assumption | (intros; grind)
  deliv := by
    have := h.deliv; have := hc.call_id; have := hf.pubKey
    inv_cases hs [pubKey, CPc.waiting]

/-- a call has no result before the handler thread serving it has finished -/
theorem SInv.no_result (h : SInv s) {e : E} {t : Nat}
    (hn : (s.handlers (peer e) (s.servedBy (peer e) t)).pc ≠ .finished) : (s.calls e t).result = none :=
  Option.eq_none_iff_forall_ne_some.mpr fun r hq => hn (h.result_prov e t r hq).2.1

structure LInv (s : State) : Prop where
  req_free : ∀ e, s.reqLoopBusy e = none
  res_free : ∀ e, s.resLoopBusy e = none

theorem linv_init : LInv init := by
  constructor <;> simp [init]

theorem linv_step (ha : Async sk) (h : LInv s) (hs : Step sk s a s') : LInv s' where
  req_free := by
    have := h.req_free; have := ha.resolveGo; have := ha.handlerGo; have := ha.reqOnlyRead
    inv_cases hs [release]
  res_free := by
    have := h.res_free; have := ha.publishGo; have := ha.resOnlyRead
    inv_cases hs [release]

structure AllInv (s : State) : Prop where
  c  : CInv s
  r  : RInv s
  v  : VInv s
  sv : SInv s

theorem reach_all (sk : Skeleton) (hf : Facts sk) {s : State} (h : Reach sk s) : AllInv s := by
  induction h with
  | init => exact ⟨cinv_init, rinv_init, vinv_init, sinv_init⟩
  | step a _ hs ih =>
    have hs := Step.of_step hs
    exact ⟨cinv_step hf ih.c hs, rinv_step hf ih.c ih.r hs, vinv_step hf ih.r ih.v hs,
      sinv_step hf ih.c ih.r ih.sv hs⟩

theorem reach_linv (sk : Skeleton) (ha : Async sk) {s : State} (h : Reach sk s) : LInv s := by
  induction h with
  | init => exact linv_init
  | step a _ hs ih => exact linv_step ha ih (.of_step hs)

end

/-! The functional case split of `step` by groups of actions, as tactic macros.  No proof calls them: preservation
  goes through `Step` (`inv_cases`), and the grouping of actions they name (`Act.group`) is not defined. -/

local macro "cinv_tac" hg:ident h:ident hf:ident hs:ident a:ident : tactic => `(tactic| (
  obtain ⟨h1, h2, h3, h4, h5, h6⟩ := $h
  obtain ⟨f1, f0, f2, f3, f4, f5, f6, f7, f8⟩ := $hf
  clear f2 f3 f4 f5 f6
  cases $a:ident <;> simp only [Act.group] at $hg:ident <;> (try omega)
  all_goals clear $hg
  all_goals simp only [step, startCall] at $hs:ident
  all_goals (repeat' split at $hs:ident) <;> (try simp at $hs:ident) <;> (try subst $hs)
  all_goals refine ⟨?_, ?_, ?_, ?_, ?_, ?_⟩
  all_goals first | assumption | (intros; grind [upd2_apply, updE_apply, CPc.waiting, pubKey, recvKey])))

local macro "rinv_tac" hg:ident hc:ident h:ident hf:ident hs:ident a:ident : tactic => `(tactic| (
  obtain ⟨c1, c2, c3, c4, c5, -⟩ := $hc
  obtain ⟨h1, h1', h2, h3, h4, h5⟩ := $h
  obtain ⟨f1, f0, f2, f3, f4, f5, f6, f7, f8⟩ := $hf
  clear f4 f5 f6 f7 f8
  cases $a:ident <;> simp only [Act.group] at $hg:ident <;> (try omega)
  all_goals clear $hg
  all_goals simp only [step, startCall] at $hs:ident
  all_goals (repeat' split at $hs:ident) <;> (try simp at $hs:ident) <;> (try subst $hs)
  all_goals refine ⟨?_, ?_, ?_, ?_, ?_, ?_⟩
  all_goals first | assumption | (intros; grind [upd2_apply, updE_apply, CPc.wrote, CPc.waiting, mkReq,
    nodup_map_append_singleton, nodup_map_eraseIdx, key_ne_of_mem_eraseIdx, mem_of_mem_eraseIdx',
    mem_of_getElem?'])))

local macro "vinv_tac" hg:ident hr:ident h:ident hf:ident hs:ident a:ident : tactic => `(tactic| (
  obtain ⟨r1, r1', r2, r3, r4, r5⟩ := $hr
  obtain ⟨h1, h2, h3, h4⟩ := $h
  obtain ⟨f1, f0, f2, f3, f4, f5, f6, f7, f8⟩ := $hf
  clear f1 f2 f3 f5 f7 f8 r1 r1' r2
  cases $a:ident <;> simp only [Act.group] at $hg:ident <;> (try omega)
  all_goals clear $hg
  all_goals simp only [step, startCall] at $hs:ident
  all_goals (repeat' split at $hs:ident) <;> (try simp at $hs:ident) <;> (try subst $hs)
  all_goals refine ⟨?_, ?_, ?_, ?_⟩
  all_goals first | assumption | (intros; grind [upd2_apply, updE_apply, HPc.entered, invCount_append,
    invCount_mkInv, invCount_map_setRet, mem_map_setRet, mem_append_mkInv, setRet_ep, setRet_h, setRet_call,
    setRet_fn, setRet_args, setRet_ret])))

local macro "step_cases" hs:ident a:ident : tactic => `(tactic| (
  cases $a:ident <;> simp only [step, startCall] at $hs:ident
  all_goals (repeat' split at $hs:ident) <;> (try simp at $hs:ident) <;> (try subst $hs)))

local macro "resloc_tac" hg:ident hc:ident hr:ident h:ident hf:ident hs:ident a:ident : tactic => `(tactic| (
  obtain ⟨-, c2, c3, -, -, c6⟩ := $hc
  obtain ⟨-, -, -, r3, r4, r5⟩ := $hr
  obtain ⟨-, -, -, -, -, f5, f6, f7, -⟩ := $hf
  simp only [ResLoc] at $h:ident ⊢
  cases $a:ident <;> simp only [Act.group] at $hg:ident <;> (try omega)
  all_goals clear $hg
  all_goals simp only [step, startCall] at $hs:ident
  all_goals (repeat' split at $hs:ident) <;> (try simp at $hs:ident) <;> (try subst $hs)
  all_goals first | assumption | (intros; grind [upd2_apply, updE_apply, CPc.wrote, CPc.waiting, mkRes, pubKey,
    Pub.holds_pending, Pub.holds_done, Pub.holds_absent, mem_map_append_singleton])))

end Panrpc.Sys
