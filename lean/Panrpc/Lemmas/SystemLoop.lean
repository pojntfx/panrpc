/-
  Lemmas/SystemLoop.lean — M3: with an asynchronous resolver, handler and Publish, the request
  and response loops are never busy; their "consume a frame" step is enabled iff the buffer
  holds that frame — whatever the handler, call and publisher threads are doing.
-/
import Panrpc.Lemmas.System

namespace Panrpc.Sys

theorem reqDeliver_enabled_iff (sk : Skeleton) {s : State} (h : LInv s) (e : E) (i : Nat) :
    (step sk s (.reqDeliver e i)).isSome = true ↔ i < (s.reqs e).length := by
  simp only [step, h.req_free e, if_true]
  cases hg : (s.reqs e)[i]? with
  | none => simpa using List.getElem?_eq_none_iff.mp hg
  | some f => simpa using (List.getElem?_eq_some_iff.mp hg).1

theorem resDeliver_enabled_iff (sk : Skeleton) {s : State} (h : LInv s) (e : E) (i : Nat) :
    (step sk s (.resDeliver e i)).isSome = true ↔ i < (s.ress e).length := by
  simp only [step, h.res_free e, if_true]
  cases hg : (s.ress e)[i]? with
  | none => simpa using List.getElem?_eq_none_iff.mp hg
  | some f => simpa using (List.getElem?_eq_some_iff.mp hg).1

/-- general form of `C02_loops_never_wait` -/
theorem loops_never_wait_of (sk : Skeleton) (ha : Async sk) : ∀ s, Reach sk s → ∀ e,
    s.reqLoopBusy e = none ∧ s.resLoopBusy e = none ∧
    (∀ i, (step sk s (.reqDeliver e i)).isSome = true ↔ i < (s.reqs e).length) ∧
    (∀ i, (step sk s (.resDeliver e i)).isSome = true ↔ i < (s.ress e).length) := by
  intro s hr e
  have hl := reach_linv _ ha hr
  exact ⟨hl.req_free e, hl.res_free e, reqDeliver_enabled_iff _ hl e, resDeliver_enabled_iff _ hl e⟩

/-- whatever the skeleton: the response loop is only ever busy with a publisher that has not finished -/
theorem busy_pub_pending (sk : Skeleton) {s : State} (h : Reach sk s) :
    ∀ e p, s.resLoopBusy e = some p → ∃ f, s.pubs e p = .pending f := by
  induction h with
  | init => intro e p hb; simp [init] at hb
  | step a _ hs ih =>
    have hs := Step.of_step hs
    inv_cases hs [release]

/-- a publisher that has not finished always has an enabled step of its own (deliver or drop) -/
theorem pending_pub_can_finish (sk : Skeleton) {s : State} (hc : CInv s) (e : E) (p : Nat)
    (hp : ∃ f, s.pubs e p = .pending f) :
    (step sk s (.publishDrop e p)).isSome = true ∨ ∃ t, (step sk s (.publish e p t)).isSome = true := by
  obtain ⟨f, hq⟩ := hp
  by_cases hk : s.pending e (pubKey sk f) = true
  · refine .inr ⟨pubKey sk f, ?_⟩
    have hw := hc.pend e _ hk
    have hid := hc.call_id e _ (CPc.ne_absent_of_waiting hw.1)
    simp [step, hq, hk, hid, hw.1, hw.2]
  · left
    simp [step, hq, hk]

end Panrpc.Sys
