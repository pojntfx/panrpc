/-
  Lemmas/SystemProgress.lean — M3: the PROGRESS invariant and the completion theorem for calls
  that are already in flight.

  `PInv` locates, for every call thread whose request has been written and that has not been
  handed a result, where its message is:
     (i)   not yet consumed by the peer's request loop  ⇒ its request frame is in flight;
     (ii)  consumed ⇒ a handler thread for it exists (`RInv.served_h`), at some pc;
     (iii) that handler thread finished ⇒ its response frame is in flight towards the caller, or
     (iv)  a publisher of the caller's response loop holds it (and the call is still pending,
           `CInv.wait_pend`).
  In every stage the next step of the message is enabled (the loops never wait, `LInv`), except
  where user code decides: a handler that is `stalled`, or that waits for a nested call.

  A continuation is described by WHICH THREADS its actions belong to (`Act.Only`, `Act.Within`); what it
  leaves alone (`FrN`, "stalled handlers are as they were") then follows from `run_frame`.
-/
import Panrpc.Lemmas.SystemSafe

namespace Panrpc.Sys

theorem mem_map_eraseIdx_of_ne {α : Type} (g : α → Nat) (l : List α) (i : Nat) (x : α) (k : Nat)
    (hk : k ∈ l.map g) (hx : l[i]? = some x) (hne : g x ≠ k) : k ∈ (l.eraseIdx i).map g := by
  obtain ⟨y, hy, rfl⟩ := List.mem_map.mp hk
  obtain ⟨j, hj⟩ := List.getElem?_of_mem hy
  exact List.mem_map.mpr ⟨y, List.mem_eraseIdx_iff_getElem?.mpr
    ⟨j, fun h => hne (by rw [h, hx] at hj; cases hj; rfl), hj⟩, rfl⟩

/-- publisher `p` holds (and has not yet handed over or dropped) the response for call id `t` -/
def Pub.holds (p : Pub) (t : Nat) : Prop :=
  match p with
  | .pending f => f.call = t
  | _ => False

theorem Pub.holds_pending (f : ResFrame) (t : Nat) : (Pub.pending f).holds t ↔ f.call = t := Iff.rfl
theorem Pub.holds_done (f : ResFrame) (d : Bool) (t : Nat) : (Pub.done f d).holds t ↔ False := Iff.rfl
theorem Pub.holds_absent (t : Nat) : Pub.absent.holds t ↔ False := Iff.rfl

/-- (i): a written request that the peer has not consumed is in flight -/
def ReqLoc (s : State) : Prop :=
  ∀ e t, (s.calls e t).pc.wrote = true → s.served (peer e) t = false →
    t ∈ (s.reqs (peer e)).map ReqFrame.call

/-- (iii)/(iv): once the handler thread of a still-waiting call has finished, its response frame
    is in flight towards the caller or held by one of the caller's publishers -/
def ResLoc (s : State) : Prop :=
  ∀ e t, (s.calls e t).pc = .written → (s.calls e t).result = none → s.served (peer e) t = true →
    (s.handlers (peer e) (s.servedBy (peer e) t)).pc = .finished →
    t ∈ (s.ress e).map ResFrame.call ∨ ∃ p, (s.pubs e p).holds t

/-- a handler thread inside a nested call waits for a call thread of its own endpoint that has
    been started -/
def NestedLoc (s : State) : Prop :=
  ∀ x h t', (s.handlers x h).pc = .waitingNested t' →
    (s.calls x t').pc.waiting = true ∨ (s.calls x t').pc = .returned

/-- with `Receive` before `writeRequest` a call thread is never in the two states that exist
    only for a source that writes first -/
def NoUnreg (s : State) : Prop :=
  ∀ e t, (s.calls e t).pc ≠ .started ∧ (s.calls e t).pc ≠ .writtenUnreg

structure PInv (s : State) : Prop where
  req_loc : ReqLoc s
  res_loc : ResLoc s
  nested  : NestedLoc s
  unreg   : NoUnreg s

theorem pinv_init : PInv init := by
  constructor <;> simp [init, ReqLoc, ResLoc, NestedLoc, NoUnreg, CPc.wrote]

theorem pinv_step {sk : Skeleton} (hf : Facts sk) (hrw : sk.stubRecvBeforeWrite = true) {s s' : State} {a : Act}
    (hc : CInv s) (hr : RInv s) (hsv : SInv s) (h : PInv s) (hs : Step sk s a s') : PInv s' where
  req_loc := by
    have := h.req_loc; have := hc.call_id; have := hf.reqCall
    unfold ReqLoc at *
    inv_cases hs [CPc.wrote, mkReq, mem_map_eraseIdx_of_ne]
  res_loc := by
    have h0 := h.res_loc; have hu := h.unreg; have hl := hsv.pub_lt
    have := hr.h_prov; have := hr.served_h; have := hf.resCall
    unfold ResLoc NoUnreg at *
    cases hs
    case resDeliver e i f hb hi =>
      intro e1 t1 h1 h2 h3 h4
      by_cases hk : e1 = e ∧ f.call = t1
      · exact .inr ⟨s.nextPub e, by simp [hk.1, Pub.holds, hk.2]⟩
      · have hnew : ∀ p, (s.pubs e p).holds t1 → ¬(e = e ∧ p = s.nextPub e) := fun p hp hh => by
          have := hl e p (by rintro h0; rw [h0] at hp; exact hp); omega
        rcases h0 e1 t1 h1 h2 h3 h4 with h0 | ⟨p, hp⟩
        · grind [mem_map_eraseIdx_of_ne]
        · exact .inr ⟨p, by grind⟩
    case publish e p t f hp hk hid hw hres =>
      -- the publisher that delivers held the response of `t` alone
      have hft : f.call = t := by
        rw [hc.call_id e t (CPc.ne_absent_of_waiting hw)] at hid; simpa [pubKey, hf.pubKey] using hid.symm
      intro e1 t1 h1 h2 h3 h4
      have hx : ¬(e1 = e ∧ t1 = t) := by rintro ⟨rfl, rfl⟩; simp at h2
      simp only [upd2_apply, hx, if_false] at h1 h2
      refine (h0 e1 t1 h1 h2 h3 h4).imp_right fun ⟨q, hq⟩ => ⟨q, ?_⟩
      grind [Pub.holds_pending]
    case publishDrop e p f hp hk =>
      -- a publisher drops only what nobody waits for
      intro e1 t1 h1 h2 h3 h4
      have := hc.wait_pend e1 t1 (by rw [h1]; rfl) h2; have := hf.pubKey
      refine (h0 e1 t1 h1 h2 h3 h4).imp_right fun ⟨q, hq⟩ => ⟨q, ?_⟩
      grind [Pub.holds_pending, pubKey]
    all_goals first | assumption | (intros; grind [CPc.wrote, mkRes, Sent])
  nested := by
    have := h.nested
    unfold NestedLoc at *
    inv_cases hs [CPc.waiting]
  unreg := by
    have := h.unreg
    unfold NoUnreg at *
    inv_cases hs

theorem reach_pinv (sk : Skeleton) (hf : Facts sk) (hrw : sk.stubRecvBeforeWrite = true) {s : State}
    (h : Reach sk s) : PInv s := by
  induction h with
  | init => exact pinv_init
  | step a hr hs ih =>
    have hi := reach_all sk hf hr
    exact pinv_step hf hrw hi.c hi.r hi.sv ih (.of_step hs)

/-- `Unblocked s n e t` (decidable): the handler thread serving call thread `(e,t)` — if it exists
    already — is not stalled, and it waits at nesting depth exactly `n`: for `n = 0` it is not
    inside a nested call; for `n + 1` it waits for a call thread of its own endpoint that is
    unblocked at depth `n`.  (A chain of nested calls that ends in a stalled handler, or that is
    circular, is unblocked at no depth.) -/
def unblocked (s : State) : Nat → E → Nat → Bool
  | 0, e, t => !s.served (peer e) t ||
      (match (s.handlers (peer e) (s.servedBy (peer e) t)).pc with
       | .stalled => false
       | .waitingNested _ => false
       | _ => true)
  | n + 1, e, t => s.served (peer e) t &&
      (match (s.handlers (peer e) (s.servedBy (peer e) t)).pc with
       | .waitingNested t' => unblocked s n (peer e) t'
       | _ => false)

abbrev Unblocked (s : State) (n : Nat) (e : E) (t : Nat) : Prop := unblocked s n e t = true

theorem unblocked_zero {s : State} {e : E} {t : Nat} :
    Unblocked s 0 e t ↔ (s.served (peer e) t = true →
      (s.handlers (peer e) (s.servedBy (peer e) t)).pc ≠ .stalled ∧
      ∀ t', (s.handlers (peer e) (s.servedBy (peer e) t)).pc ≠ .waitingNested t') := by
  cases hsv : s.served (peer e) t with
  | false => simp [Unblocked, unblocked, hsv]
  | true => cases hpc : (s.handlers (peer e) (s.servedBy (peer e) t)).pc <;> simp [Unblocked, unblocked, hsv, hpc]

theorem unblocked_succ {s : State} {n : Nat} {e : E} {t : Nat} (h : Unblocked s (n + 1) e t) :
    s.served (peer e) t = true ∧
    ∃ t', (s.handlers (peer e) (s.servedBy (peer e) t)).pc = .waitingNested t' ∧ Unblocked s n (peer e) t' := by
  simp only [Unblocked, unblocked, Bool.and_eq_true] at h
  refine ⟨h.1, ?_⟩
  have h2 := h.2
  split at h2
  · rename_i t' hpc; exact ⟨t', hpc, h2⟩
  · simp at h2

theorem unblocked_succ_of {s : State} {n : Nat} {e : E} {t t' : Nat} (hsv : s.served (peer e) t = true)
    (hpc : (s.handlers (peer e) (s.servedBy (peer e) t)).pc = .waitingNested t')
    (hu : Unblocked s n (peer e) t') : Unblocked s (n + 1) e t := by
  simp only [Unblocked, unblocked, hsv, hpc, Bool.true_and]; exact hu

theorem Unblocked.zero_succ {s : State} {m : Nat} {e : E} {t : Nat} (h0 : Unblocked s 0 e t)
    (h1 : Unblocked s (m + 1) e t) : False := by
  obtain ⟨hsv, t', hpc, -⟩ := unblocked_succ h1
  exact (unblocked_zero.mp h0 hsv).2 t' hpc

theorem Unblocked.unique {s : State} : ∀ {n m : Nat} {e : E} {t : Nat},
    Unblocked s n e t → Unblocked s m e t → n = m
  | 0, 0, _, _, _, _ => rfl
  | 0, _ + 1, _, _, h1, h2 => (h1.zero_succ h2).elim
  | _ + 1, 0, _, _, h1, h2 => (h2.zero_succ h1).elim
  | n + 1, m + 1, _, _, h1, h2 => by
    obtain ⟨-, t1, hpc1, hu1⟩ := unblocked_succ h1
    obtain ⟨-, t2, hpc2, hu2⟩ := unblocked_succ h2
    cases hpc1.symm.trans hpc2
    rw [Unblocked.unique hu1 hu2]

structure Fr (s s' : State) (e : E) (t : Nat) : Prop where
  calls    : ∀ x i, (s.calls x i).pc ≠ .absent → ¬(x = e ∧ i = t) → s'.calls x i = s.calls x i
  handlers : ∀ x h, (s.handlers x h).pc ≠ .absent → ¬(x = peer e ∧ (s.handlers x h).req.call = t) →
    s'.handlers x h = s.handlers x h
  stalled  : ∀ x h, (s.handlers x h).pc = .stalled → s'.handlers x h = s.handlers x h

theorem Fr.refl (s : State) (e : E) (t : Nat) : Fr s s e t :=
  ⟨fun _ _ _ _ => rfl, fun _ _ _ _ => rfl, fun _ _ _ => rfl⟩

/-- what a continuation for a call that is unblocked at depth `n` leaves alone: every call thread
    and every handler thread that is not on a chain of depth ≤ `n`, and every stalled handler -/
structure FrN (s s' : State) (n : Nat) : Prop where
  calls    : ∀ x i, (s.calls x i).pc ≠ .absent → (∀ k, k ≤ n → ¬ Unblocked s k x i) → s'.calls x i = s.calls x i
  handlers : ∀ x h, (s.handlers x h).pc ≠ .absent →
    (∀ k, k ≤ n → ¬ Unblocked s k (peer x) (s.handlers x h).req.call) → s'.handlers x h = s.handlers x h
  stalled  : ∀ x h, (s.handlers x h).pc = .stalled → s'.handlers x h = s.handlers x h

theorem Pub.holds_iff {p : Pub} {t : Nat} : p.holds t ↔ ∃ f, p = .pending f ∧ f.call = t := by
  cases p <;> simp [Pub.holds]

theorem exists_getElem?_of_mem_map {α : Type} (g : α → Nat) (l : List α) (k : Nat) (h : k ∈ l.map g) :
    ∃ (i : Nat) (x : α), l[i]? = some x ∧ g x = k := by
  obtain ⟨x, hx, hk⟩ := List.mem_map.mp h
  obtain ⟨i, hi⟩ := List.getElem?_of_mem hx
  exact ⟨i, x, hi, hk⟩

def Act.Only (e : E) (t h : Nat) : Act → Prop :=
  Act.In (fun x i => x = e ∧ i = t) (fun x i => x = peer e ∧ i = h) fun _ _ => True

/-- call thread `(e,t)` can return within `k` steps: its own, those of handler thread `(peer e, h)`, and
    steps of loops and publishers -/
def Done (sk : Skeleton) (s : State) (e : E) (t h k : Nat) : Prop :=
  ∃ acts s', run sk s acts = some s' ∧ acts.length ≤ k ∧ (s'.calls e t).pc = .returned ∧ ∀ a, a ∈ acts → a.Only e t h

theorem Done.cons {sk : Skeleton} {s s1 : State} {a : Act} {e : E} {t h k : Nat}
    (hs : Step sk s a s1) (ha : a.Only e t h) (hd : Done sk s1 e t h k) : Done sk s e t h (k + 1) := by
  obtain ⟨acts, s', hrun, hlen, hpc, hav⟩ := hd
  exact ⟨a :: acts, s', by rw [run_cons_some sk _ hs.to_step]; exact hrun, Nat.succ_le_succ hlen, hpc,
    List.forall_mem_cons.mpr ⟨ha, hav⟩⟩

theorem Done.mono {sk : Skeleton} {s : State} {e : E} {t h k k' : Nat} (hd : Done sk s e t h k) (hk : k ≤ k') :
    Done sk s e t h k' := by
  obtain ⟨acts, s', h1, h2, h3⟩ := hd
  exact ⟨acts, s', h1, Nat.le_trans h2 hk, h3⟩

structure Waiting (sk : Skeleton) (s : State) (e : E) (t : Nat) : Prop where
  reach : Reach sk s
  pc    : (s.calls e t).pc = .written
  res   : (s.calls e t).result = none

theorem Waiting.step {sk : Skeleton} {s s1 : State} {a : Act} {e : E} {t : Nat} (w : Waiting sk s e t)
    (hs : Step sk s a s1) (hc : s1.calls e t = s.calls e t) : Waiting sk s1 e t :=
  ⟨.step a w.reach hs.to_step, hc ▸ w.pc, hc ▸ w.res⟩

section
variable {sk : Skeleton} {s : State} {e : E} {t : Nat}

theorem done_result (sk : Skeleton) (h : Nat) (hpc : (s.calls e t).pc = .written) (hres : (s.calls e t).result ≠ none) :
    Done sk s e t h 1 :=
  ⟨[.callReturn e t], _, run_cons_some sk [] (Step.callReturn hpc (Option.isSome_iff_ne_none.mpr hres)).to_step,
    Nat.le_refl _, by simp, by simp [Act.Only, Act.In]⟩

theorem done_pub (hf : Facts sk) (h : Nat) {p : Nat} (w : Waiting sk s e t) (hp : (s.pubs e p).holds t) : Done sk s e t h 2 := by
  obtain ⟨f, hq, hk⟩ := Pub.holds_iff.mp hp
  have hi := reach_all sk hf w.reach
  have hkey : pubKey sk f = t := by simp [pubKey, hf.pubKey, hk]
  refine Done.cons (Step.publish (t := t) hq ?_ ?_ (by rw [w.pc]; rfl) w.res) (by simp [Act.Only, Act.In])
    (done_result sk h (by simp [w.pc]) (by simp))
  · rw [hkey]; exact hi.c.wait_pend e t (by rw [w.pc]; rfl) w.res
  · rw [hkey]; exact hi.c.call_id e t (by rw [w.pc]; simp)


theorem done_res (hf : Facts sk) (ha : Async sk) (h : Nat) (w : Waiting sk s e t) (hm : t ∈ (s.ress e).map ResFrame.call) : Done sk s e t h 3 := by
  obtain ⟨i, f, hi, hk⟩ := exists_getElem?_of_mem_map _ _ _ hm
  have hs := Step.resDeliver (sk := sk) ((reach_linv sk ha w.reach).res_free e) hi
  exact Done.cons hs (by simp [Act.Only, Act.In])
    (done_pub hf h (p := s.nextPub e) (w.step hs rfl) (by simp [Pub.holds, hk]))

theorem done_returned (hf : Facts sk) (ha : Async sk) {h : Nat} (w : Waiting sk s e t) (hh : (s.handlers (peer e) h).pc = .returned)
    (hq : (s.handlers (peer e) h).req.call = t) : Done sk s e t h 4 := by
  obtain ⟨r, hr⟩ := Option.ne_none_iff_exists'.mp ((reach_all sk hf w.reach).v.ret_some (peer e) h (.inl hh))
  have hs := Step.respond (sk := sk) hh hr
  exact Done.cons hs (by simp [Act.Only, Act.In])
    (done_res hf ha h (w.step hs rfl) (by simp [mkRes, hf.resCall, hq]))

theorem done_running (hf : Facts sk) (ha : Async sk) {h : Nat} (w : Waiting sk s e t) (hh : (s.handlers (peer e) h).pc = .running)
    (hq : (s.handlers (peer e) h).req.call = t) : Done sk s e t h 5 :=
  have hs := Step.handlerReturn (sk := sk) 0 0 hh
  Done.cons hs (by simp [Act.Only, Act.In])
    (done_returned hf ha (w.step hs rfl) (by simp) (by simp [hq]))

theorem done_resolving (hf : Facts sk) (ha : Async sk) {h : Nat} (w : Waiting sk s e t) (hh : (s.handlers (peer e) h).pc = .resolving)
    (hq : (s.handlers (peer e) h).req.call = t) : Done sk s e t h 6 :=
  have hs := Step.handlerEnter (sk := sk) hh (by simp [ha.handlerGo, ha.reqOnlyRead])
  Done.cons hs (by simp [Act.Only, Act.In])
    (done_running hf ha (w.step hs rfl) (by simp) (by simp [hq]))

/-- the handler thread will be the next one spawned -/
theorem done_req (hf : Facts sk) (ha : Async sk) (w : Waiting sk s e t) (hm : t ∈ (s.reqs (peer e)).map ReqFrame.call) :
    Done sk s e t (s.nextHandler (peer e)) 7 := by
  obtain ⟨i, f, hi, hk⟩ := exists_getElem?_of_mem_map _ _ _ hm
  have hs := Step.reqDeliver (sk := sk) ((reach_linv sk ha w.reach).req_free (peer e)) hi
  exact Done.cons hs (by simp [Act.Only, Act.In])
    (done_resolving hf ha (w.step hs rfl) (by simp) (by simp [hk]))

theorem done_registered (hf : Facts sk) (ha : Async sk) (hr : Reach sk s) (hpc : (s.calls e t).pc = .registered) :
    Done sk s e t (s.nextHandler (peer e)) 8 := by
  have hs := Step.callWrite (sk := sk) (by simp [windowFree, ha.wrappers]) hpc
  have hi := reach_all sk hf hr
  have hid := hi.c.call_id e t (by rw [hpc]; simp)
  exact Done.cons hs (by simp [Act.Only, Act.In])
    (done_req hf ha ⟨.step _ hr hs.to_step, by simp, by simp [registered_no_result hi hpc]⟩
      (by simp [mkReq, hf.reqCall, hid]))

/-- A call whose handler thread is not inside a nested call (and not stalled) returns within 8 steps; `h` is its
    handler thread: the one that serves it, or the next one to be spawned. -/
theorem done_depth0 (hf : Facts sk) (ha : Async sk) (hrw : sk.stubRecvBeforeWrite = true)
    (hr : Reach sk s) (hw : (s.calls e t).pc.waiting = true) (hu : Unblocked s 0 e t) :
    ∃ h, Done sk s e t h 8 ∧ (h < s.nextHandler (peer e) →
      (s.handlers (peer e) h).req.call = t ∧ (s.handlers (peer e) h).pc ≠ .stalled) := by
  have hinv := reach_all sk hf hr
  have hp := reach_pinv sk hf hrw hr
  have new {k} (hd : Done sk s e t (s.nextHandler (peer e)) k) (hk : k ≤ 8) : ∃ h, Done sk s e t h 8 ∧
      (h < s.nextHandler (peer e) → (s.handlers (peer e) h).req.call = t ∧ (s.handlers (peer e) h).pc ≠ .stalled) :=
    ⟨_, hd.mono hk, fun hlt => absurd hlt (Nat.lt_irrefl _)⟩
  rcases CPc.waiting_iff.mp hw with hpc | hpc
  · exact new (done_registered hf ha hr hpc) (by omega)
  · cases hres : (s.calls e t).result with
    | some r => exact new (done_result sk _ hpc (by rw [hres]; simp)) (by omega)
    | none =>
      have w : Waiting sk s e t := ⟨hr, hpc, hres⟩
      cases hsv : s.served (peer e) t with
      | false => exact new (done_req hf ha w (hp.req_loc e t (by rw [hpc]; rfl) hsv)) (by omega)
      | true =>
        obtain ⟨hne, hq⟩ := hinv.r.served_h (peer e) t hsv
        obtain ⟨hns, hnn⟩ := unblocked_zero.mp hu hsv
        refine ⟨s.servedBy (peer e) t, ?_, fun _ => ⟨hq, hns⟩⟩
        cases hh : (s.handlers (peer e) (s.servedBy (peer e) t)).pc with
        | absent => exact absurd hh hne
        | stalled => exact absurd hh hns
        | waitingNested t' => exact absurd hh (hnn t')
        | resolving => exact (done_resolving hf ha w hh hq).mono (by omega)
        | running => exact (done_running hf ha w hh hq).mono (by omega)
        | returned => exact (done_returned hf ha w hh hq).mono (by omega)
        | finished =>
          rcases hp.res_loc e t hpc hres hsv hh with hm | ⟨p, hpub⟩
          · exact (done_res hf ha _ w hm).mono (by omega)
          · exact (done_pub hf _ w hpub).mono (by omega)

/-- The threads a continuation for a call that is unblocked at depth `n` uses: call threads on a chain of depth
    ≤ `n`, the handler threads serving them — none of them stalled — and threads that do not exist yet. -/
def Act.Within (s : State) (n : Nat) : Act → Prop :=
  Act.In (fun x i => ∃ k, k ≤ n ∧ Unblocked s k x i)
    (fun x h => h < s.nextHandler x →
      (s.handlers x h).pc ≠ .stalled ∧ ∃ k, k ≤ n ∧ Unblocked s k (peer x) (s.handlers x h).req.call)
    fun _ _ => True

theorem Act.Within.mono {s : State} {n m : Nat} {a : Act} (h : a.Within s n) (hnm : n ≤ m) : a.Within s m :=
  ⟨fun x i hc => (h.call x i hc).imp fun _ hk => ⟨Nat.le_trans hk.1 hnm, hk.2⟩,
   fun x i hh hlt => (h.handler x i hh hlt).imp id fun hk => hk.imp fun _ hk => ⟨Nat.le_trans hk.1 hnm, hk.2⟩,
   fun _ _ _ => trivial⟩

theorem Act.Only.within {s : State} {e : E} {t h n : Nat} {a : Act} (ho : a.Only e t h) (hu : Unblocked s n e t)
    (hh : h < s.nextHandler (peer e) → (s.handlers (peer e) h).req.call = t ∧ (s.handlers (peer e) h).pc ≠ .stalled) :
    a.Within s n := by
  refine ⟨fun x i hc => ?_, fun x i hc hlt => ?_, fun _ _ _ => trivial⟩
  · obtain ⟨rfl, rfl⟩ := ho.call _ _ hc; exact ⟨n, Nat.le_refl _, hu⟩
  · obtain ⟨rfl, rfl⟩ := ho.handler _ _ hc
    obtain ⟨hq, hns⟩ := hh hlt
    exact ⟨hns, n, Nat.le_refl _, by rw [hq, peer_peer]; exact hu⟩

def CanReturn (sk : Skeleton) (s : State) (e : E) (t n : Nat) : Prop :=
  ∃ acts s', run sk s acts = some s' ∧ acts.length ≤ 8 + 6 * n ∧ (s'.calls e t).pc = .returned ∧
    ∀ a, a ∈ acts → a.Within s n

theorem CanReturn.frame {sk : Skeleton} {s s' : State} {acts : List Act} {n : Nat} (hi : AllInv s)
    (hrun : run sk s acts = some s') (hav : ∀ a, a ∈ acts → a.Within s n) : FrN s s' n := by
  have hfr := run_frame sk acts hrun hav
  refine ⟨fun x i hne hno => ?_, fun x h hne hno => ?_, fun x h hst => ?_⟩
  · exact hfr.calls x i (hi.c.call_lt x i hne) fun ⟨k, hk, hu⟩ => hno k hk hu
  · have hlt := hi.r.h_lt x h hne
    exact hfr.handlers x h hlt fun hH => by obtain ⟨-, k, hk, hu⟩ := hH hlt; exact hno k hk hu
  · have hlt := hi.r.h_lt x h (by rw [hst]; simp)
    exact hfr.handlers x h hlt fun hH => (hH hlt).1 hst

theorem can_return (hf : Facts sk) (ha : Async sk) (hrw : sk.stubRecvBeforeWrite = true) :
    ∀ (n : Nat) {s : State}, Reach sk s → ∀ e t, (s.calls e t).pc.waiting = true → Unblocked s n e t →
      CanReturn sk s e t n := by
  intro n
  induction n with
  | zero =>
    intro s hr e t hw hu
    obtain ⟨h, ⟨acts, s', h1, h2, h3, h4⟩, hh⟩ := done_depth0 hf ha hrw hr hw hu
    exact ⟨acts, s', h1, h2, h3, fun a m => (h4 a m).within hu hh⟩
  | succ n ih =>
    intro s hr e t hw hu
    have hinv := reach_all sk hf hr
    obtain ⟨hsv, t', hpc0, hu'⟩ := unblocked_succ hu
    obtain ⟨hne0, hq0⟩ := hinv.r.served_h (peer e) t hsv
    -- the call thread itself: written, no result yet
    have hwrote := (hinv.r.h_prov (peer e) _ hne0).1
    rw [hq0, peer_peer] at hwrote
    have hpc : (s.calls e t).pc = .written :=
      (CPc.waiting_iff.mp hw).resolve_left fun hc => by rw [hc] at hwrote; cases hwrote
    have hres : (s.calls e t).result = none := hinv.sv.no_result (by rw [hpc0]; simp)
    have hnot : ∀ k, k ≤ n → ¬ Unblocked s k e t := fun k hk huk => by have := Unblocked.unique huk hu; omega
    -- first the nested call; it uses neither the call thread nor its handler thread
    obtain ⟨acts1, s1, hrun1, hlen1, hret1, hav1⟩ : CanReturn sk s (peer e) t' n := by
      rcases (reach_pinv sk hf hrw hr).nested (peer e) _ t' hpc0 with hw' | hret
      · exact ih hr (peer e) t' hw' hu'
      · exact ⟨[], s, rfl, Nat.zero_le _, hret, by simp⟩
    have hfr := CanReturn.frame hinv hrun1 hav1
    have hc1 : s1.calls e t = s.calls e t := hfr.calls e t (by rw [hpc]; simp) hnot
    have hh1 : s1.handlers (peer e) (s.servedBy (peer e) t) = s.handlers (peer e) (s.servedBy (peer e) t) :=
      hfr.handlers _ _ hne0 (by rw [hq0, peer_peer]; exact hnot)
    -- the handler leaves the nested call and is an ordinary running handler from there
    have hs2 := Step.handlerNestedDone (sk := sk) (by rw [hh1]; exact hpc0) hret1
    obtain ⟨acts2, s', hrun2, hlen2, hret2, hav2⟩ :=
      done_running hf ha (h := s.servedBy (peer e) t)
        ⟨.step _ (reach_of_run sk _ hr hrun1) hs2.to_step, hc1 ▸ hpc, hc1 ▸ hres⟩ (by simp) (by simp [hh1, hq0])
    have hown : ∀ a : Act, a.Only e t (s.servedBy (peer e) t) → a.Within s (n + 1) :=
      fun a ho => ho.within hu fun _ => ⟨hq0, by rw [hpc0]; simp⟩
    refine ⟨acts1 ++ .handlerNestedDone (peer e) (s.servedBy (peer e) t) :: acts2, s', ?_, ?_, hret2, ?_⟩
    · rw [run_append, hrun1, Option.bind_some, run_cons_some sk _ hs2.to_step]; exact hrun2
    · simp only [List.length_append, List.length_cons]; omega
    · simp only [List.mem_append, List.mem_cons]
      rintro a (m | rfl | m)
      · exact (hav1 a m).mono (Nat.le_succ n)
      · exact hown _ (by simp [Act.Only, Act.In])
      · exact hown a (hav2 a m)

/-- General form of `C01_can_complete`: from every reachable state, a call thread that has been
    started (`registered`) or whose request is written (`written`), and that is unblocked at
    nesting depth `n`, returns by an explicit continuation of at most `8 + 6·n` steps; no step of
    it belongs to a handler thread that is stalled, and every stalled handler thread is left
    exactly as it was. -/
theorem can_complete (sk : Skeleton) (hf : Facts sk) (ha : Async sk) (hrw : sk.stubRecvBeforeWrite = true)
    {s : State} (hr : Reach sk s) (e : E) (t n : Nat)
    (hw : (s.calls e t).pc = .registered ∨ (s.calls e t).pc = .written) (hu : Unblocked s n e t) :
    ∃ acts s', run sk s acts = some s' ∧ acts.length ≤ 8 + 6 * n ∧ (s'.calls e t).pc = .returned ∧
      (∀ a, a ∈ acts → ∀ x h, a.handler? = some (x, h) → (s.handlers x h).pc ≠ .stalled) ∧
      (∀ x h, (s.handlers x h).pc = .stalled → s'.handlers x h = s.handlers x h) := by
  have hi := reach_all sk hf hr
  obtain ⟨acts, s', h1, h2, h3, h4⟩ :=
    can_return hf ha hrw n hr e t (CPc.waiting_iff.mpr hw) hu
  exact ⟨acts, s', h1, h2, h3,
    fun a m x h hh hst => ((h4 a m).handler x h hh (hi.r.h_lt x h (by rw [hst]; simp))).1 hst,
    (CanReturn.frame hi h1 h4).stalled⟩

theorem stalled_stays {s' : State} {a : Act} (hri : RInv s) (hs : Step sk s a s')
    (x : E) (h : Nat) (hst : (s.handlers x h).pc = .stalled) (hna : a ≠ .handlerResume x h) :
    s'.handlers x h = s.handlers x h :=
  (hs.frame a.in_self).handlers x h (hri.h_lt x h (by rw [hst]; simp)) fun hh => by cases hs <;> simp_all

/-- a call whose handler thread is stalled has not returned: its result would have come from that thread -/
theorem stalled_not_returned {e : E} {t h : Nat} (hi : AllInv s) (hst : (s.handlers (peer e) h).pc = .stalled)
    (hq : (s.handlers (peer e) h).req.call = t) : (s.calls e t).pc ≠ .returned := fun hret => by
  have hb := hi.r.h_by (peer e) h (by rw [hst]; simp)
  rw [hq] at hb
  exact hi.c.ret_res e t hret (hi.sv.no_result (by rw [hb, hst]; simp))

/-- While the handler thread serving call `(e,t)` is stalled, the call cannot return: every run
    that contains no `handlerResume` of that thread leaves the call un-returned (and the handler
    stalled). -/
theorem stalled_blocks (sk : Skeleton) (hf : Facts sk) (e : E) (t h : Nat) (acts : List Act) {s s' : State}
    (hr : Reach sk s) (hst : (s.handlers (peer e) h).pc = .stalled) (hq : (s.handlers (peer e) h).req.call = t)
    (hna : Act.handlerResume (peer e) h ∉ acts) (hrun : run sk s acts = some s') :
    (s'.calls e t).pc ≠ .returned ∧ (s'.handlers (peer e) h).pc = .stalled := by
  obtain ⟨⟨hr', hst', hq'⟩, -⟩ := runFrom_rel (R := fun _ _ => True)
    (I := fun s => Reach sk s ∧ (s.handlers (peer e) h).pc = .stalled ∧ (s.handlers (peer e) h).req.call = t)
    (P := (· ≠ .handlerResume (peer e) h)) (fun _ => trivial) (fun _ _ => trivial)
    (fun ⟨hr, hst, hq⟩ ha hs => by
      have hsame := stalled_stays (reach_all sk hf hr).r (.of_step hs) (peer e) h hst ha
      exact ⟨⟨.step _ hr hs, hsame ▸ hst, hsame ▸ hq⟩, trivial⟩)
    ⟨hr, hst, hq⟩ (fun a hm h0 => hna (by rwa [h0] at hm)) hrun
  exact ⟨stalled_not_returned (reach_all sk hf hr') hst' hq', hst'⟩

end

/-! The functional case split of `step`, as in Lemmas/System.lean (a `local macro` is visible in its own file only);
  no proof calls it. -/

local macro "step_cases" hs:ident a:ident : tactic => `(tactic| (
  cases $a:ident <;> simp only [step, startCall] at $hs:ident
  all_goals (repeat' split at $hs:ident) <;> (try simp at $hs:ident) <;> (try subst $hs)))

end Panrpc.Sys
