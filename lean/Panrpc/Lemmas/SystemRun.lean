/-
  Lemmas/SystemRun.lean — M3: explicit runs.  `serve n e t` drives call thread `(e,t)` — already
  started (`registered`) — through an alternating chain of depth `n`:
      write the request; the peer's request loop spawns a handler thread; it enters user code;
      [depth > 0: the handler calls back to this side: a nested call served recursively at depth n-1]
      the handler returns `ret n`; responds; this side's response loop spawns a publisher; it hands
      the value to the waiter; the call returns.
  The run is computed from the state it starts in (frame positions, fresh thread indices), and
  is proved to succeed from EVERY reachable state — whatever other threads, stalled handlers
  and frames in flight that state contains — touching none of them.
-/
import Panrpc.Lemmas.SystemSafe

namespace Panrpc.Sys

theorem eraseIdx_length_append {α : Type} (l : List α) (x : α) : (l ++ [x]).eraseIdx l.length = l := by
  simp [List.eraseIdx_append_of_length_le]

/-- `callWrite e t; reqDeliver (peer e) <the frame just written>; handlerEnter (peer e) <new thread>` -/
def preActs (s : State) (e : E) (t : Nat) : List Act :=
  [.callWrite e t, .reqDeliver (peer e) (s.reqs (peer e)).length, .handlerEnter (peer e) (s.nextHandler (peer e))]

def preState (sk : Skeleton) (s : State) (e : E) (t : Nat) : State :=
  let e' := peer e
  let h := s.nextHandler e'
  let c := s.calls e t
  let f := mkReq sk c
  { s with calls := upd2 s.calls e t { c with pc := .written },
           nextHandler := updE s.nextHandler e' (h + 1),
           handlers := upd2 s.handlers e' h { pc := .running, req := f, ret := none },
           served := upd2 s.served e' f.call true,
           servedBy := upd2 s.servedBy e' f.call h,
           invocations := s.invocations ++ mkInv sk e' h f }

structure Pre (sk : Skeleton) (s : State) (e : E) (t : Nat) : Prop where
  reach : Reach sk s
  pc    : (s.calls e t).pc = .registered
  id    : (s.calls e t).id = t
  res   : (s.calls e t).result = none
  lt    : t < s.nextCall e

theorem Pre.run_preActs {sk : Skeleton} (ha : Async sk) {s : State} {e : E} {t : Nat} (hp : Pre sk s e t) :
    run sk s (preActs s e t) = some (preState sk s e t) := by
  have hb := (reach_linv sk ha hp.reach).req_free (peer e)
  obtain ⟨a1, a2, a3, a4, a5, a6⟩ := ha
  simp only [preActs, run, runFrom, step, hp.pc, updE_same, hb, if_true, List.getElem?_concat_length,
    upd2_same, a1, a2, a4, a6, windowFree, Bool.true_or, Bool.true_eq_false, or_self, if_false, eraseIdx_length_append, updE_updE, upd2_upd2, release,
    updE_eq_self _ _ _ rfl, updE_eq_self _ _ _ hb, ite_self, preState]

def callPeerState (sk : Skeleton) (s : State) (e : E) (h : Nat) (fn args : Nat) : State :=
  let s1 := startCall sk s e fn args (some (e, h))
  { s1 with handlers := upd2 s1.handlers e h { s.handlers e h with pc := .waitingNested (s.nextCall e) } }

def nestedDoneState (s : State) (e : E) (h : Nat) : State :=
  { s with handlers := upd2 s.handlers e h { s.handlers e h with pc := .running } }

/-- `handlerReturn; respond; resDeliver e <the frame just written>; publish <new publisher>; callReturn` -/
def postActs (s : State) (e : E) (t h : Nat) (v : Nat × Nat) : List Act :=
  [.handlerReturn (peer e) h v.1 v.2, .respond (peer e) h, .resDeliver e (s.ress e).length,
   .publish e (s.nextPub e) t, .callReturn e t]

def postState (s : State) (e : E) (t h : Nat) (v : Nat × Nat) : State :=
  let e' := peer e
  let hd := s.handlers e' h
  let c := s.calls e t
  { s with handlers := upd2 s.handlers e' h { hd with pc := .finished, ret := some v },
           invocations := s.invocations.map (setRet e' h v),
           nextPub := updE s.nextPub e (s.nextPub e + 1),
           pubs := upd2 s.pubs e (s.nextPub e) (.done ⟨t, v.1, v.2⟩ true),
           calls := upd2 s.calls e t { c with pc := .returned, result := some v },
           pending := upd2 s.pending e t false,
           deliveries := s.deliveries ++
             [{ ep := e, pub := s.nextPub e, waiter := t, waiterId := t, frameCall := t,
                value := v.1, err := v.2 }] }

theorem post_run (sk : Skeleton) (hf : Facts sk) (ha : Async sk) (s : State) (e : E) (t h : Nat) (v : Nat × Nat)
    (hh : (s.handlers (peer e) h).pc = .running) (hreq : (s.handlers (peer e) h).req.call = t)
    (hb1 : s.reqLoopBusy (peer e) = none) (hb2 : s.resLoopBusy e = none)
    (hp : s.pending e t = true) (hpc : (s.calls e t).pc = .written) (hid : (s.calls e t).id = t)
    (hres : (s.calls e t).result = none) :
    run sk s (postActs s e t h v) = some (postState s e t h v) := by
  obtain ⟨f1, f0, f2, f3, f4, f5, f6, f7, f8⟩ := hf
  obtain ⟨a1, a2, a3, a4, a5, a6⟩ := ha
  simp only [postActs, run, runFrom, step, peer_peer, hh, upd2_same, f6, if_true, release, hb1, hb2, a5,
    updE_eq_self _ _ _ hb1, updE_eq_self _ _ _ hb2, updE_same, List.getElem?_concat_length, eraseIdx_length_append,
    updE_updE, upd2_upd2, updE_eq_self _ _ _ rfl, a3, mkRes, f5, hreq, pubKey, pubVal, f7, f8, hp, hid, hpc,
    hres, CPc.waiting, and_self, Option.isSome_some, ite_self, postState]

def serve (sk : Skeleton) (ret : Nat → Nat × Nat) : Nat → E → Nat → State → Option (State × List Act)
  | 0, e, t, s =>
    (run sk s (preActs s e t)).bind fun s1 =>
    let post := postActs s1 e t (s.nextHandler (peer e)) (ret 0)
    (run sk s1 post).bind fun s2 => some (s2, preActs s e t ++ post)
  | n + 1, e, t, s =>
    (run sk s (preActs s e t)).bind fun s1 =>
    let cp := Act.handlerCallPeer (peer e) (s.nextHandler (peer e)) 0 n
    (step sk s1 cp).bind fun s2 =>
    (serve sk ret n (peer e) (s1.nextCall (peer e)) s2).bind fun r =>
    let nd := Act.handlerNestedDone (peer e) (s.nextHandler (peer e))
    (step sk r.1 nd).bind fun s4 =>
    let post := postActs s4 e t (s.nextHandler (peer e)) (ret (n + 1))
    (run sk s4 post).bind fun s5 => some (s5, preActs s e t ++ (cp :: (r.2 ++ (nd :: post))))

/-- `s'` agrees with `s` on every thread and frame that existed in `s`, except call thread `(e,t)` -/
structure Agree (s s' : State) (e : E) (t : Nat) : Prop where
  nc       : ∀ x, s.nextCall x ≤ s'.nextCall x
  nh       : ∀ x, s.nextHandler x ≤ s'.nextHandler x
  np       : ∀ x, s.nextPub x ≤ s'.nextPub x
  calls    : ∀ x i, i < s.nextCall x → ¬(x = e ∧ i = t) → s'.calls x i = s.calls x i
  pend     : ∀ x i, i < s.nextCall x → ¬(x = e ∧ i = t) → s'.pending x i = s.pending x i
  handlers : ∀ x i, i < s.nextHandler x → s'.handlers x i = s.handlers x i
  pubs     : ∀ x i, i < s.nextPub x → s'.pubs x i = s.pubs x i
  reqs     : ∀ x, s'.reqs x = s.reqs x
  ress     : ∀ x, s'.ress x = s.ress x

def Act.Fresh (s : State) (e : E) (t : Nat) : Act → Prop :=
  Act.In (fun x i => (x = e ∧ i = t) ∨ s.nextCall x ≤ i) (fun x i => s.nextHandler x ≤ i) fun x i => s.nextPub x ≤ i

/-- freshness survives going back to an earlier state in which `(e',t')` did not exist yet -/
theorem Act.Fresh.mono {C H P : E → Nat → Prop} {s s2 : State} {e e' : E} {t t' : Nat} {a : Act}
    (h : a.Fresh s2 e' t') (hfr : Frame C H P s s2) (ht : s.nextCall e' ≤ t') : a.Fresh s e t :=
  ⟨fun x i hc => .inr <| (h.call x i hc).elim (fun hx => hx.1 ▸ hx.2 ▸ ht) (Nat.le_trans (hfr.nc x)),
   fun x i hc => Nat.le_trans (hfr.nh x) (h.handler x i hc), fun x i hc => Nat.le_trans (hfr.np x) (h.pub x i hc)⟩

structure Post (sk : Skeleton) (s s' : State) (e : E) (t : Nat) (v : Nat × Nat) (acts : List Act) : Prop where
  run   : run sk s acts = some s'
  call  : s'.calls e t = { s.calls e t with pc := .returned, result := some v }
  fresh : ∀ a, a ∈ acts → a.Fresh s e t
  reqs  : s'.reqs = s.reqs
  ress  : s'.ress = s.ress

/-- what a run leaves alone follows from WHICH threads its actions belong to (`run_frame`) -/
theorem Agree.of_fresh {sk : Skeleton} (hf : Facts sk) {s s' : State} {e : E} {t : Nat} {acts : List Act}
    (hr : Reach sk s) (hrun : run sk s acts = some s') (hfresh : ∀ a, a ∈ acts → a.Fresh s e t)
    (hreqs : s'.reqs = s.reqs) (hress : s'.ress = s.ress) : Agree s s' e t := by
  have hfr := run_frame sk acts hrun hfresh
  have hcalls : ∀ x i, i < s.nextCall x → ¬(x = e ∧ i = t) → s'.calls x i = s.calls x i := fun x i hi hne =>
    hfr.calls x i hi fun hc => hc.elim hne (by omega)
  have hc := (reach_all sk hf hr).c
  have hc' := (reach_all sk hf (reach_of_run sk _ hr hrun)).c
  exact ⟨hfr.nc, hfr.nh, hfr.np, hcalls,
    fun x i hi hne => Bool.eq_iff_iff.mpr (by rw [hc'.pending_iff, hc.pending_iff, hcalls x i hi hne]),
    fun x i hi => hfr.handlers x i hi (by omega), fun x i hi => hfr.pubs x i hi (by omega),
    congrFun hreqs, congrFun hress⟩

def midState (sk : Skeleton) (s : State) (e : E) (t n : Nat) : State :=
  callPeerState sk (preState sk s e t) (peer e) (s.nextHandler (peer e)) 0 n

structure MidFacts (sk : Skeleton) (s s2 : State) (e : E) (t n : Nat) : Prop where
  nc : ∀ x, s2.nextCall x = if x = peer e then s.nextCall (peer e) + 1 else s.nextCall x
  nh : ∀ x, s2.nextHandler x = if x = peer e then s.nextHandler (peer e) + 1 else s.nextHandler x
  np : s2.nextPub = s.nextPub
  calls : ∀ x i, s2.calls x i =
    if x = peer e ∧ i = s.nextCall (peer e) then
      { pc := .registered, id := s.nextCall (peer e), fn := 0, args := n,
        parent := some (peer e, s.nextHandler (peer e)), result := none }
    else if x = e ∧ i = t then { s.calls e t with pc := .written } else s.calls x i
  pend : ∀ x i, s2.pending x i = if x = peer e ∧ i = s.nextCall (peer e) then true else s.pending x i
  handlers : ∀ x i, s2.handlers x i =
    if x = peer e ∧ i = s.nextHandler (peer e) then
      { pc := .waitingNested (s.nextCall (peer e)), req := mkReq sk (s.calls e t), ret := none }
    else s.handlers x i
  pubs : s2.pubs = s.pubs
  reqs : s2.reqs = s.reqs
  ress : s2.ress = s.ress

theorem mid_facts (sk : Skeleton) (hf : Facts sk) (hrw : sk.stubRecvBeforeWrite = true)
    (s : State) (e : E) (t n : Nat) : MidFacts sk s (midState sk s e t n) e t n := by
  constructor
  all_goals simp only [midState, callPeerState, startCall, preState, hrw, hf.fresh, recvKey, hf.recvKey, if_true]
  · intro x; simp only [updE_apply]
  · intro x; simp only [updE_apply]
  · intro x i; simp only [upd2_apply]
  · intro x i; simp only [upd2_apply]
  · intro x i; simp only [upd2_apply]; split <;> simp_all

/-- The general step: whatever the handler thread does between entering user code and returning — a run `mid`
    of threads that do not exist in `s`, which leaves it running and the call thread and the buffers as they
    were — the call completes.  (`serve`: nothing, or a nested call served at one depth less.) -/
theorem served (sk : Skeleton) (hf : Facts sk) (ha : Async sk) {s : State} {e : E} {t : Nat} (hp : Pre sk s e t)
    (v : Nat × Nat) {mid : List Act} {s3 : State} (hmid : run sk (preState sk s e t) mid = some s3)
    (hfresh : ∀ a, a ∈ mid → a.Fresh s e t)
    (hh : s3.handlers (peer e) (s.nextHandler (peer e)) =
      (preState sk s e t).handlers (peer e) (s.nextHandler (peer e)))
    (hc : s3.calls e t = (preState sk s e t).calls e t)
    (hreqs : s3.reqs = s.reqs) (hress : s3.ress = s.ress) :
    run sk s3 (postActs s3 e t (s.nextHandler (peer e)) v) = some (postState s3 e t (s.nextHandler (peer e)) v) ∧
    Post sk s (postState s3 e t (s.nextHandler (peer e)) v) e t v
      (preActs s e t ++ (mid ++ postActs s3 e t (s.nextHandler (peer e)) v)) := by
  have h1 := hp.run_preActs ha
  have hrun : run sk s (preActs s e t ++ mid) = some s3 := by rw [run_append, h1]; exact hmid
  have hr3 := reach_of_run sk _ hp.reach hrun
  have hl3 := reach_linv sk ha hr3
  simp only [preState, upd2_same] at hh hc
  have h5 := post_run sk hf ha s3 e t (s.nextHandler (peer e)) v (by rw [hh]) (by simp [hh, mkReq, hf.reqCall, hp.id])
    (hl3.req_free _) (hl3.res_free _)
    ((reach_all sk hf hr3).c.wait_pend e t (by rw [hc]; rfl) (by rw [hc]; exact hp.res))
    (by rw [hc]) (by rw [hc]; exact hp.id) (by rw [hc]; exact hp.res)
  refine ⟨h5, by rw [← List.append_assoc, run_append, hrun]; exact h5, by simp [postState, hc], ?_, hreqs, hress⟩
  have hnp := (run_frame sk _ hrun fun a _ => a.in_top).np e
  simp only [List.mem_append]
  rintro a (m | m | m)
  · revert a; simp [preActs, Act.Fresh, Act.In]
  · exact hfresh a m
  · revert a; simp [postActs, Act.Fresh, Act.In, hnp]

theorem serve_spec (sk : Skeleton) (hf : Facts sk) (ha : Async sk) (hrw : sk.stubRecvBeforeWrite = true)
    (ret : Nat → Nat × Nat) :
    ∀ n s e t, Pre sk s e t →
      ∃ s' acts, serve sk ret n e t s = some (s', acts) ∧ acts.length = 8 + 10 * n ∧
        Post sk s s' e t (ret n) acts := by
  intro n
  induction n with
  | zero =>
    intro s e t hp
    have h1 := hp.run_preActs ha
    obtain ⟨h2, hP⟩ := served sk hf ha hp (ret 0) (mid := []) rfl (by simp) rfl rfl rfl rfl
    exact ⟨_, _, by simp only [serve, h1, Option.bind_some, h2, List.nil_append], by simp [preActs, postActs], hP⟩
  | succ n ih =>
    intro s e t hp
    have h1 := hp.run_preActs ha
    have h2 : step sk (preState sk s e t) (.handlerCallPeer (peer e) (s.nextHandler (peer e)) 0 n) =
        some (midState sk s e t n) := by simp [step, midState, callPeerState, preState]
    have hrun2 : run sk s (preActs s e t ++ [.handlerCallPeer (peer e) (s.nextHandler (peer e)) 0 n]) =
        some (midState sk s e t n) := by rw [run_append, h1, Option.bind_some, run_cons_some sk _ h2]; rfl
    have hr2 := reach_of_run sk _ hp.reach hrun2
    have hm := mid_facts sk hf hrw s e t n
    -- the nested call, served at depth `n`
    obtain ⟨s3, mid, h3, hlen, hpost⟩ := ih _ (peer e) (s.nextCall (peer e))
      (by refine ⟨hr2, ?_, ?_, ?_, ?_⟩ <;> simp [hm.calls, hm.nc])
    -- it left the outer call thread and its handler thread as they were
    have hag := Agree.of_fresh hf hr2 hpost.run hpost.fresh hpost.reqs hpost.ress
    have hh3 : s3.handlers (peer e) (s.nextHandler (peer e)) =
        { pc := .waitingNested (s.nextCall (peer e)), req := mkReq sk (s.calls e t), ret := none } := by
      rw [hag.handlers _ _ (by rw [hm.nh]; simp), hm.handlers]; simp
    have hc3 : s3.calls e t = { s.calls e t with pc := .written } := by
      rw [hag.calls e t (by rw [hm.nc]; simp [hp.lt]) (by simp), hm.calls]; simp
    have h4 : step sk s3 (.handlerNestedDone (peer e) (s.nextHandler (peer e))) =
        some (nestedDoneState s3 (peer e) (s.nextHandler (peer e))) :=
      (Step.handlerNestedDone (by rw [hh3]) (by rw [hpost.call])).to_step
    obtain ⟨h5, hP⟩ := served sk hf ha hp (ret (n + 1))
      (mid := .handlerCallPeer (peer e) (s.nextHandler (peer e)) 0 n ::
        (mid ++ [.handlerNestedDone (peer e) (s.nextHandler (peer e))]))
      (s3 := nestedDoneState s3 (peer e) (s.nextHandler (peer e)))
      (by rw [run_cons_some sk _ h2, run_append, hpost.run, Option.bind_some, run_cons_some sk _ h4]; rfl)
      (by
        simp only [List.mem_cons, List.mem_append, List.not_mem_nil, or_false]
        rintro a (rfl | m | rfl)
        · simp [Act.Fresh, Act.In]
        · exact (hpost.fresh a m).mono (run_frame sk _ hrun2 fun a _ => a.in_top) (Nat.le_refl _)
        · simp [Act.Fresh, Act.In])
      (by simp [nestedDoneState, preState, hh3]) (by simp [nestedDoneState, preState, hc3])
      (hpost.reqs.trans hm.reqs) (hpost.ress.trans hm.ress)
    refine ⟨_, _, ?_, ?_, by simpa using hP⟩
    · simp only [serve, h1, Option.bind_some, h2]
      rw [show (preState sk s e t).nextCall (peer e) = s.nextCall (peer e) from rfl, h3]
      simp only [Option.bind_some, h4, h5]
    · simp [preActs, postActs, hlen]; omega

/-- From every reachable state, every call that has been started and not yet written can be
    completed — with ANY value/error the handler chooses — by 8 further steps, none of which
    belongs to a handler thread that already exists. -/
theorem registered_can_complete (sk : Skeleton) (hf : Facts sk) (ha : Async sk)
    (hrw : sk.stubRecvBeforeWrite = true) {s : State} (hr : Reach sk s) (e : E) (t : Nat)
    (hpc : (s.calls e t).pc = .registered) (v err : Nat) :
    ∃ acts s', run sk s acts = some s' ∧ acts.length = 8 ∧
      (s'.calls e t).pc = .returned ∧ (s'.calls e t).result = some (v, err) ∧
      (∀ a, a ∈ acts → ∀ x h, a.handler? = some (x, h) → s.nextHandler x ≤ h) := by
  have h := reach_all sk hf hr
  have hne : (s.calls e t).pc ≠ .absent := by rw [hpc]; simp
  obtain ⟨s', acts, -, hlen, hpost⟩ := serve_spec sk hf ha hrw (fun _ => (v, err)) 0 s e t
    ⟨hr, hpc, h.c.call_id e t hne, registered_no_result h hpc, h.c.call_lt e t hne⟩
  exact ⟨acts, s', hpost.run, hlen, by rw [hpost.call], by rw [hpost.call], fun a m => (hpost.fresh a m).handler⟩

structure Untouched (s s' : State) : Prop where
  handlers : ∀ x h, h < s.nextHandler x → s'.handlers x h = s.handlers x h
  calls    : ∀ x i, i < s.nextCall x → s'.calls x i = s.calls x i ∧ s'.pending x i = s.pending x i
  pubs     : ∀ x p, p < s.nextPub x → s'.pubs x p = s.pubs x p
  frames   : ∀ x, s'.reqs x = s.reqs x ∧ s'.ress x = s.ress x

theorem Agree.untouched {s s' : State} {e : E} {t : Nat} (h : Agree s s' e t) (ht : s.nextCall e ≤ t) :
    Untouched s s' where
  handlers := h.handlers
  calls x i hi :=
    have hne : ¬(x = e ∧ i = t) := by rintro ⟨rfl, rfl⟩; omega
    ⟨h.calls x i hi hne, h.pend x i hi hne⟩
  pubs := h.pubs
  frames x := ⟨h.reqs x, h.ress x⟩

/-- From every reachable state — whatever handlers are stalled in it, whatever calls and frames
    are in flight — a fresh call of `e` whose handlers alternate direction to depth `n`
    (A→B→A→…; the handler at remaining depth `k` returns `ret k`) completes in `9 + 10·n` steps;
    every handler thread that was stalled is still stalled. -/
theorem chain_completes (sk : Skeleton) (hf : Facts sk) (ha : Async sk)
    (hrw : sk.stubRecvBeforeWrite = true) (ret : Nat → Nat × Nat) (n : Nat)
    {s : State} (hr : Reach sk s) (e : E) (fn args : Nat) :
    ∃ acts s', run sk s (.callStart e fn args :: acts) = some s' ∧ acts.length = 8 + 10 * n ∧
      s'.calls e (s.nextCall e) =
        { pc := .returned, id := s.nextCall e, fn := fn, args := args, parent := none, result := some (ret n) } ∧
      (∀ a, a ∈ acts → ∀ x h, a.handler? = some (x, h) → s.nextHandler x ≤ h) ∧
      Untouched s s' ∧
      (∀ x h, (s.handlers x h).pc = .stalled → (s'.handlers x h).pc = .stalled) := by
  have h0 : step sk s (.callStart e fn args) = some (startCall sk s e fn args none) := rfl
  have hpre : Pre sk (startCall sk s e fn args none) e (s.nextCall e) := by
    refine ⟨.step _ hr h0, ?_, ?_, ?_, ?_⟩ <;> simp [startCall, hrw, hf.fresh, recvKey, hf.recvKey]
  obtain ⟨s', acts, -, hlen, hpost⟩ := serve_spec sk hf ha hrw ret n _ e _ hpre
  have hrun : run sk s (.callStart e fn args :: acts) = some s' := by rw [run_cons_some sk _ h0]; exact hpost.run
  -- seen from `s`, the call thread is new as well
  have hfresh : ∀ a, a ∈ Act.callStart e fn args :: acts → a.Fresh s e (s.nextCall e) :=
    List.forall_mem_cons.mpr ⟨by simp [Act.Fresh, Act.In], fun a m =>
      (hpost.fresh a m).mono (run_frame sk [_] (run_cons_some sk [] h0) fun a _ => a.in_top) (Nat.le_refl _)⟩
  have hu := (Agree.of_fresh hf hr hrun hfresh hpost.reqs hpost.ress).untouched (Nat.le_refl _)
  exact ⟨acts, s', hrun, hlen, by rw [hpost.call]; simp [startCall, hf.fresh],
    fun a m => (hpost.fresh a m).handler, hu, fun x h hst => by
      rw [hu.handlers x h ((reach_all _ hf hr).r.h_lt x h (by rw [hst]; simp))]; exact hst⟩

end Panrpc.Sys
