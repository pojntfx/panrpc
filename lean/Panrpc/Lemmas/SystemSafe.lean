/-
  Lemmas/SystemSafe.lean — M3: what the invariant layers (Lemmas/System.lean) say about invocation
  counts, and the general (∀ sk, Facts sk → …) forms of the C01 safety theorems.
-/
import Panrpc.Lemmas.System

namespace Panrpc.Sys

/-- a result comes from a handler thread, which exists only for a request that was written -/
theorem registered_no_result {s : State} {e : E} {t : Nat} (hi : AllInv s)
    (hpc : (s.calls e t).pc = .registered) : (s.calls e t).result = none := by
  refine Option.eq_none_iff_forall_ne_some.mpr fun r hq => ?_
  obtain ⟨hsv, hfin, -⟩ := hi.sv.result_prov e t r hq
  have hp := (hi.r.h_prov (peer e) _ (by rw [hfin]; simp)).1
  rw [(hi.r.served_h (peer e) t hsv).2, peer_peer, hpc] at hp
  cases hp

/-- a count of one means exactly one -/
theorem exists_unique_of_countP_eq_one {α : Type} {p : α → Bool} {l : List α} (hc : l.countP p = 1) :
    ∃ a, a ∈ l ∧ p a = true ∧ ∀ b, b ∈ l → p b = true → b = a := by
  rw [List.countP_eq_length_filter] at hc
  obtain ⟨a, ha⟩ := List.length_eq_one_iff.mp hc
  have hm (b : α) : b ∈ l ∧ p b = true ↔ b = a := by rw [← List.mem_filter, ha, List.mem_singleton]
  exact ⟨a, ((hm a).mpr rfl).1, ((hm a).mpr rfl).2, fun b hb hpb => (hm b).mp ⟨hb, hpb⟩⟩

/-- a record's call id is the request id of its handler thread (`inv_h`), and `servedBy` is inverse to `req.call`
    (`h_by`, `served_h`): a record is of call `k` iff `k` has been consumed and the record is of the thread serving it -/
theorem inv_call_iff {s : State} (h : AllInv s) {r : Invocation} (hr : r ∈ s.invocations) (e : E) (k : Nat) :
    r.ep = e ∧ r.call = k ↔ s.served e k = true ∧ r.ep = e ∧ r.h = s.servedBy e k := by
  obtain ⟨hent, hcall, -⟩ := h.v.inv_h r hr
  have hne : (s.handlers r.ep r.h).pc ≠ .absent := fun h0 => by rw [h0] at hent; cases hent
  constructor
  · rintro ⟨rfl, rfl⟩
    exact ⟨hcall ▸ h.r.h_served _ _ hne, rfl, hcall ▸ (h.r.h_by _ _ hne).symm⟩
  · rintro ⟨hs, rfl, hh⟩
    exact ⟨rfl, by rw [hcall, hh]; exact (h.r.served_h _ k hs).2⟩

theorem invCountCall_eq {s : State} (h : AllInv s) (e : E) (k : Nat) :
    invCountCall s.invocations e k =
      if s.served e k = true then invCount s.invocations e (s.servedBy e k) else 0 := by
  rw [invCountCall, List.countP_congr
    (q := fun r => decide (s.served e k = true ∧ r.ep = e ∧ r.h = s.servedBy e k))
    fun r hr => by simp only [inv_call_iff h hr e k]]
  split <;> simp [invCount, *]

theorem invCountCall_le_one {s : State} (h : AllInv s) (e : E) (k : Nat) :
    invCountCall s.invocations e k ≤ 1 := by
  rw [invCountCall_eq h]
  split
  · rw [h.v.inv_cnt]; split <;> omega
  · omega

theorem result_is_own {s : State} (h : AllInv s) (e : E) (t : Nat) (v err : Nat)
    (hres : (s.calls e t).result = some (v, err)) :
    (s.calls e t).id = t ∧
    invCountCall s.invocations (peer e) t = 1 ∧
    ∃ r, r ∈ s.invocations ∧ r.ep = peer e ∧ r.call = t ∧
      r.fn = (s.calls e t).fn ∧ r.args = (s.calls e t).args ∧ r.ret = some (v, err) ∧
      ∀ r', r' ∈ s.invocations → r'.ep = peer e → r'.call = t → r' = r := by
  obtain ⟨hsv, hfin, hret⟩ := h.sv.result_prov e t (v, err) hres
  have hp := h.r.h_prov (peer e) _ (by rw [hfin]; simp)
  have hk := (h.r.served_h (peer e) t hsv).2
  have hid := h.c.call_id _ _ hp.ne_absent
  rw [hk, peer_peer] at hid
  have hcc : invCountCall s.invocations (peer e) t = 1 := by
    rw [invCountCall_eq h, if_pos hsv, h.v.inv_cnt, hfin]; rfl
  refine ⟨hid, hcc, ?_⟩
  -- the one record of call `t` is the record of the handler thread serving it
  obtain ⟨r, hr, hrt, huniq⟩ := exists_unique_of_countP_eq_one hcc
  rw [decide_eq_true_eq] at hrt
  have hi := h.v.inv_h r hr
  rw [hrt.1, ((inv_call_iff h hr _ t).mp hrt).2.2] at hi
  simp only [Sent, hk, peer_peer] at hp
  exact ⟨r, hr, hrt.1, hrt.2, hi.2.2.1.trans hp.2.1.symm, hi.2.2.2.1.trans hp.2.2.symm, hi.2.2.2.2.trans hret,
    fun r' hr' he' hc' => huniq r' hr' (by simp [he', hc'])⟩

/-- general form of `C01_ids_unique` -/
theorem ids_unique_of (sk : Skeleton) (hfacts : Facts sk) : ∀ s, Reach sk s →
    (∀ e t t', (s.calls e t).pc ≠ .absent → (s.calls e t').pc ≠ .absent →
      (s.calls e t).id = (s.calls e t').id → t = t') ∧
    (∀ e k, s.pending e k = true →
      ∃ t, (s.calls e t).pc.waiting = true ∧ (s.calls e t).id = k ∧ (s.calls e t).result = none ∧
        ∀ t', (s.calls e t').pc ≠ .absent → (s.calls e t').id = k → t' = t) := by
  intro s hr
  have h := reach_all _ hfacts hr
  refine ⟨?_, ?_⟩
  · intro e t t' h1 h2 hid
    rwa [h.c.call_id e t h1, h.c.call_id e t' h2] at hid
  · intro e k hk
    have hw := h.c.pend e k hk
    refine ⟨k, hw.1, h.c.call_id e k (CPc.ne_absent_of_waiting hw.1), hw.2, ?_⟩
    intro t' h1 hid
    rwa [h.c.call_id e t' h1] at hid

/-- general form of `C01_request_provenance` -/
theorem request_provenance_of (sk : Skeleton) (hfacts : Facts sk) : ∀ s, Reach sk s →
    (∀ e f, f ∈ s.reqs e →
      ∃ t, (s.calls (peer e) t).pc.wrote = true ∧ (s.calls (peer e) t).id = f.call ∧
        (s.calls (peer e) t).fn = f.fn ∧ (s.calls (peer e) t).args = f.args) ∧
    (∀ e h, (s.handlers e h).pc ≠ .absent →
      ∃ t, (s.calls (peer e) t).pc.wrote = true ∧ (s.calls (peer e) t).id = (s.handlers e h).req.call ∧
        (s.calls (peer e) t).fn = (s.handlers e h).req.fn ∧ (s.calls (peer e) t).args = (s.handlers e h).req.args) ∧
    (∀ e, ((s.reqs e).map ReqFrame.call).Nodup) ∧
    (∀ e f h, f ∈ s.reqs e → (s.handlers e h).pc ≠ .absent → (s.handlers e h).req.call ≠ f.call) ∧
    (∀ e h h', (s.handlers e h).pc ≠ .absent → (s.handlers e h').pc ≠ .absent →
      (s.handlers e h).req.call = (s.handlers e h').req.call → h = h') := by
  intro s hr
  have h := reach_all _ hfacts hr
  -- the call thread that sent a frame is the one whose index is the frame's id
  have sent {x : E} {f : ReqFrame} (hp : Sent s x f) : ∃ t, (s.calls x t).pc.wrote = true ∧
      (s.calls x t).id = f.call ∧ (s.calls x t).fn = f.fn ∧ (s.calls x t).args = f.args :=
    ⟨f.call, hp.1, h.c.call_id _ _ hp.ne_absent, hp.2.1, hp.2.2⟩
  refine ⟨fun e f hf => sent (h.r.req_prov e f hf), fun e hh hne => sent (h.r.h_prov e hh hne),
    h.r.req_nodup, ?_, ?_⟩
  · intro e f hh hf hne heq
    have h2 := h.r.h_served e hh hne
    rw [heq, h.r.req_fresh e f hf] at h2
    cases h2
  · intro e h1 h2 n1 n2 heq
    have p1 := h.r.h_by e h1 n1
    have p2 := h.r.h_by e h2 n2
    rw [heq] at p1
    rw [← p1, p2]

/-- general form of `C01_at_most_one_invocation` -/
theorem at_most_one_invocation_of (sk : Skeleton) (hfacts : Facts sk) : ∀ s, Reach sk s →
    (∀ e k, invCountCall s.invocations e k ≤ 1) ∧
    (∀ e t, (s.calls e t).pc = .returned → invCountCall s.invocations (peer e) (s.calls e t).id = 1) := by
  intro s hr
  have h := reach_all _ hfacts hr
  refine ⟨invCountCall_le_one h, ?_⟩
  intro e t hpc
  obtain ⟨r, hq⟩ := Option.ne_none_iff_exists'.mp (h.c.ret_res e t hpc)
  obtain ⟨hid, hc, -⟩ := result_is_own h e t r.1 r.2 hq
  rw [hid]; exact hc

/-- general form of `C01_response_provenance` -/
theorem response_provenance_of (sk : Skeleton) (hfacts : Facts sk) : ∀ s, Reach sk s →
    ∀ e f, (f ∈ s.ress e ∨ ∃ p, (s.pubs e p).frame = some f) →
      ∃ h, (s.handlers (peer e) h).req.call = f.call ∧ (s.handlers (peer e) h).pc = .finished ∧
        (s.handlers (peer e) h).ret = some (f.value, f.err) ∧
        ∀ h', (s.handlers (peer e) h').pc ≠ .absent → (s.handlers (peer e) h').req.call = f.call → h' = h := by
  intro s hr e f hf
  have h := reach_all _ hfacts hr
  have hp : Answered s (peer e) f.call (f.value, f.err) :=
    hf.elim (h.sv.res_prov e f) fun ⟨p, hf⟩ => h.sv.pub_prov e p f hf
  refine ⟨_, (h.r.served_h _ _ hp.1).2, hp.2.1, hp.2.2, ?_⟩
  intro h' hne heq
  have := h.r.h_by (peer e) h' hne
  rw [heq] at this
  exact this.symm

/-- general form of `C01_result_is_own` -/
theorem result_is_own_of (sk : Skeleton) (hfacts : Facts sk) : ∀ s, Reach sk s → ∀ e t v err,
    (s.calls e t).result = some (v, err) →
    ∃ r, r ∈ s.invocations ∧ r.ep = peer e ∧ r.call = (s.calls e t).id ∧
      r.fn = (s.calls e t).fn ∧ r.args = (s.calls e t).args ∧ r.ret = some (v, err) ∧
      (∀ r', r' ∈ s.invocations → r'.ep = peer e → r'.call = (s.calls e t).id → r' = r) ∧
      invCountCall s.invocations (peer e) (s.calls e t).id = 1 := by
  intro s hr e t v err hres
  obtain ⟨hid, hc, r, h1, h2, h3, h4, h5, h6, h7⟩ := result_is_own (reach_all _ hfacts hr) e t v err hres
  rw [hid]
  exact ⟨r, h1, h2, h3, h4, h5, h6, h7, hc⟩

/-- general form of `C01_returned_has_result` -/
theorem returned_has_result_of (sk : Skeleton) (hfacts : Facts sk) : ∀ s, Reach sk s → ∀ e t,
    (s.calls e t).pc = .returned → ∃ v err, (s.calls e t).result = some (v, err) := by
  intro s hr e t hpc
  obtain ⟨r, hq⟩ := Option.ne_none_iff_exists'.mp ((reach_all _ hfacts hr).c.ret_res e t hpc)
  exact ⟨r.1, r.2, hq⟩

/-- general form of `C01_no_foreign_response` -/
theorem no_foreign_response_of (sk : Skeleton) (hfacts : Facts sk) : ∀ s, Reach sk s →
    ∀ d, d ∈ s.deliveries → d.frameCall = d.waiterId := by
  intro s hr d hd
  exact ((reach_all _ hfacts hr).sv.deliv d hd).1

end Panrpc.Sys
