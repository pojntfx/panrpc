/-
  Lemmas/SystemStep.lean — M3: `step` as a relation (one constructor per enabled branch, the guards
  as premises), in both directions, and the frame theorem: a step, and hence a run, changes only
  the threads its actions belong to.
-/
import Panrpc.Model.System

namespace Panrpc.Sys

/-- A function-valued `if` in the new state (`startCall`'s pending table, `handlerEnter`'s loop flag) gets one
    constructor per branch: `grind` does not reduce `(if c then f else g) k`. -/
inductive Step (sk : Skeleton) (s : State) : Act → State → Prop
  | callStart {e : E} {fn args : Nat} (hrw : sk.stubRecvBeforeWrite = true) :
    Step sk s (.callStart e fn args)
      { s with nextCall := updE s.nextCall e (s.nextCall e + 1),
               calls := upd2 s.calls e (s.nextCall e)
                 { pc := .registered, id := if sk.stubCallIdFresh = true then s.nextCall e else 0,
                   fn := fn, args := args, parent := none, result := none },
               pending := upd2 s.pending e (recvKey sk (if sk.stubCallIdFresh = true then s.nextCall e else 0)) true }
  | callStartLate {e : E} {fn args : Nat} (hrw : ¬ sk.stubRecvBeforeWrite = true) :
    Step sk s (.callStart e fn args)
      { s with nextCall := updE s.nextCall e (s.nextCall e + 1),
               calls := upd2 s.calls e (s.nextCall e)
                 { pc := .started, id := if sk.stubCallIdFresh = true then s.nextCall e else 0,
                   fn := fn, args := args, parent := none, result := none } }
  | callWrite {e : E} {t : Nat} (hw : windowFree sk s e = true) (hpc : (s.calls e t).pc = .registered) :
    Step sk s (.callWrite e t)
      { s with calls := upd2 s.calls e t { s.calls e t with pc := .written },
               reqs := updE s.reqs (peer e) (s.reqs (peer e) ++ [mkReq sk (s.calls e t)]) }
  | callWriteUnreg {e : E} {t : Nat} (hw : windowFree sk s e = true) (hpc : (s.calls e t).pc = .started) :
    Step sk s (.callWrite e t)
      { s with calls := upd2 s.calls e t { s.calls e t with pc := .writtenUnreg },
               reqs := updE s.reqs (peer e) (s.reqs (peer e) ++ [mkReq sk (s.calls e t)]) }
  | callRegister {e : E} {t : Nat} (hpc : (s.calls e t).pc = .writtenUnreg) :
    Step sk s (.callRegister e t)
      { s with calls := upd2 s.calls e t { s.calls e t with pc := .written },
               pending := upd2 s.pending e (recvKey sk (s.calls e t).id) true }
  | reqDeliver {e : E} {i : Nat} {f : ReqFrame} (hb : s.reqLoopBusy e = none) (hi : (s.reqs e)[i]? = some f) :
    Step sk s (.reqDeliver e i)
      { s with reqs := updE s.reqs e ((s.reqs e).eraseIdx i),
               nextHandler := updE s.nextHandler e (s.nextHandler e + 1),
               handlers := upd2 s.handlers e (s.nextHandler e) { pc := .resolving, req := f, ret := none },
               served := upd2 s.served e f.call true,
               servedBy := upd2 s.servedBy e f.call (s.nextHandler e),
               reqLoopBusy := updE s.reqLoopBusy e
                 (if sk.reqResolveGoDepth = 0 ∨ sk.reqHandlerGoDepth = 0 ∨ sk.reqLoopBlocksOnlyOnRead = false
                  then some (s.nextHandler e) else none) }
  | handlerEnterSync {e : E} {h : Nat} (hpc : (s.handlers e h).pc = .resolving)
      (hgo : sk.reqHandlerGoDepth = 0 ∨ sk.reqLoopBlocksOnlyOnRead = false) :
    Step sk s (.handlerEnter e h)
      { s with handlers := upd2 s.handlers e h { s.handlers e h with pc := .running },
               invocations := s.invocations ++ mkInv sk e h (s.handlers e h).req }
  | handlerEnter {e : E} {h : Nat} (hpc : (s.handlers e h).pc = .resolving)
      (hgo : ¬ (sk.reqHandlerGoDepth = 0 ∨ sk.reqLoopBlocksOnlyOnRead = false)) :
    Step sk s (.handlerEnter e h)
      { s with handlers := upd2 s.handlers e h { s.handlers e h with pc := .running },
               invocations := s.invocations ++ mkInv sk e h (s.handlers e h).req,
               reqLoopBusy := updE s.reqLoopBusy e (release (s.reqLoopBusy e) h) }
  | handlerStall {e : E} {h : Nat} (hpc : (s.handlers e h).pc = .running) :
    Step sk s (.handlerStall e h) { s with handlers := upd2 s.handlers e h { s.handlers e h with pc := .stalled } }
  | handlerResume {e : E} {h : Nat} (hpc : (s.handlers e h).pc = .stalled) :
    Step sk s (.handlerResume e h) { s with handlers := upd2 s.handlers e h { s.handlers e h with pc := .running } }
  | handlerCallPeer {e : E} {h fn args : Nat} (hpc : (s.handlers e h).pc = .running)
      (hrw : sk.stubRecvBeforeWrite = true) :
    Step sk s (.handlerCallPeer e h fn args)
      { s with nextCall := updE s.nextCall e (s.nextCall e + 1),
               calls := upd2 s.calls e (s.nextCall e)
                 { pc := .registered, id := if sk.stubCallIdFresh = true then s.nextCall e else 0,
                   fn := fn, args := args, parent := some (e, h), result := none },
               pending := upd2 s.pending e (recvKey sk (if sk.stubCallIdFresh = true then s.nextCall e else 0)) true,
               handlers := upd2 s.handlers e h { s.handlers e h with pc := .waitingNested (s.nextCall e) } }
  | handlerCallPeerLate {e : E} {h fn args : Nat} (hpc : (s.handlers e h).pc = .running)
      (hrw : ¬ sk.stubRecvBeforeWrite = true) :
    Step sk s (.handlerCallPeer e h fn args)
      { s with nextCall := updE s.nextCall e (s.nextCall e + 1),
               calls := upd2 s.calls e (s.nextCall e)
                 { pc := .started, id := if sk.stubCallIdFresh = true then s.nextCall e else 0,
                   fn := fn, args := args, parent := some (e, h), result := none },
               handlers := upd2 s.handlers e h { s.handlers e h with pc := .waitingNested (s.nextCall e) } }
  | handlerNestedDone {e : E} {h t : Nat} (hpc : (s.handlers e h).pc = .waitingNested t)
      (hc : (s.calls e t).pc = .returned) :
    Step sk s (.handlerNestedDone e h) { s with handlers := upd2 s.handlers e h { s.handlers e h with pc := .running } }
  | handlerReturn {e : E} {h : Nat} (value err : Nat) (hpc : (s.handlers e h).pc = .running) :
    Step sk s (.handlerReturn e h value err)
      { s with handlers := upd2 s.handlers e h { s.handlers e h with pc := .returned, ret := some (value, err) },
               invocations := s.invocations.map (setRet e h (value, err)) }
  | respond {e : E} {h : Nat} {r : Nat × Nat} (hpc : (s.handlers e h).pc = .returned)
      (hr : (s.handlers e h).ret = some r) :
    Step sk s (.respond e h)
      { s with handlers := upd2 s.handlers e h
                 { s.handlers e h with pc := if sk.reqOneResponsePerBranch = true then .finished else .returned },
               ress := updE s.ress (peer e) (s.ress (peer e) ++ [mkRes sk (s.handlers e h).req r]),
               reqLoopBusy := updE s.reqLoopBusy e (release (s.reqLoopBusy e) h) }
  | resDeliver {e : E} {i : Nat} {f : ResFrame} (hb : s.resLoopBusy e = none) (hi : (s.ress e)[i]? = some f) :
    Step sk s (.resDeliver e i)
      { s with ress := updE s.ress e ((s.ress e).eraseIdx i),
               nextPub := updE s.nextPub e (s.nextPub e + 1),
               pubs := upd2 s.pubs e (s.nextPub e) (.pending f),
               resLoopBusy := updE s.resLoopBusy e
                 (if sk.respPublishAsync = true ∧ sk.respLoopBlocksOnlyOnRead = true then none
                  else some (s.nextPub e)) }
  | publish {e : E} {p t : Nat} {f : ResFrame} (hp : s.pubs e p = .pending f)
      (hk : s.pending e (pubKey sk f) = true) (hid : (s.calls e t).id = pubKey sk f)
      (hw : (s.calls e t).pc.waiting = true) (hres : (s.calls e t).result = none) :
    Step sk s (.publish e p t)
      { s with calls := upd2 s.calls e t { s.calls e t with result := some (pubVal sk f, f.err) },
               pending := upd2 s.pending e (pubKey sk f) false,
               pubs := upd2 s.pubs e p (.done f true),
               resLoopBusy := updE s.resLoopBusy e (release (s.resLoopBusy e) p),
               deliveries := s.deliveries ++
                 [{ ep := e, pub := p, waiter := t, waiterId := (s.calls e t).id, frameCall := f.call,
                    value := pubVal sk f, err := f.err }] }
  | publishDrop {e : E} {p : Nat} {f : ResFrame} (hp : s.pubs e p = .pending f)
      (hk : s.pending e (pubKey sk f) = false) :
    Step sk s (.publishDrop e p)
      { s with pubs := upd2 s.pubs e p (.done f false),
               resLoopBusy := updE s.resLoopBusy e (release (s.resLoopBusy e) p) }
  | callReturn {e : E} {t : Nat} (hpc : (s.calls e t).pc = .written) (hres : (s.calls e t).result.isSome = true) :
    Step sk s (.callReturn e t) { s with calls := upd2 s.calls e t { s.calls e t with pc := .returned } }

theorem Step.of_step {sk : Skeleton} {s s' : State} {a : Act} (hs : step sk s a = some s') : Step sk s a s' := by
  cases a <;> simp only [step, startCall] at hs
  -- split the guards only: stop at `some _ = some s'`, so that no `if` inside the new state is split
  all_goals repeat' first | cases hs | split at hs
  all_goals first
    | (constructor <;> first | assumption | simp_all)
    | (split <;> constructor <;> simp_all)   -- one constructor per branch of a function-valued `if`

theorem Step.to_step {sk : Skeleton} {s s' : State} {a : Act} (hs : Step sk s a s') : step sk s a = some s' := by
  cases hs <;> simp [step, startCall, *]

/-- the handler thread an action belongs to, if any -/
def Act.handler? : Act → Option (E × Nat)
  | .handlerEnter e h | .handlerStall e h | .handlerResume e h | .handlerCallPeer e h _ _
  | .handlerNestedDone e h | .handlerReturn e h _ _ | .respond e h => some (e, h)
  | _ => none

attribute [simp] Act.handler?

@[simp] def Act.call? : Act → Option (E × Nat)
  | .callWrite e t | .callRegister e t | .callReturn e t | .publish e _ t => some (e, t)
  | _ => none

@[simp] def Act.pub? : Act → Option (E × Nat)
  | .publish e p _ | .publishDrop e p => some (e, p)
  | _ => none

def Act.In (C H P : E → Nat → Prop) (a : Act) : Prop :=
  (∀ x i, a.call? = some (x, i) → C x i) ∧ (∀ x i, a.handler? = some (x, i) → H x i) ∧
  (∀ x i, a.pub? = some (x, i) → P x i)

variable {C H P : E → Nat → Prop}

theorem Act.In.call {a : Act} (h : a.In C H P) : ∀ x i, a.call? = some (x, i) → C x i := h.1
theorem Act.In.handler {a : Act} (h : a.In C H P) : ∀ x i, a.handler? = some (x, i) → H x i := h.2.1
theorem Act.In.pub {a : Act} (h : a.In C H P) : ∀ x i, a.pub? = some (x, i) → P x i := h.2.2

theorem Act.in_top (a : Act) : a.In (fun _ _ => True) (fun _ _ => True) fun _ _ => True :=
  ⟨fun _ _ _ => trivial, fun _ _ _ => trivial, fun _ _ _ => trivial⟩

/-- every action belongs to its own threads: with `Step.frame`, a step changes no other -/
theorem Act.in_self (a : Act) :
    a.In (fun x i => a.call? = some (x, i)) (fun x i => a.handler? = some (x, i)) fun x i => a.pub? = some (x, i) :=
  ⟨fun _ _ h => h, fun _ _ h => h, fun _ _ h => h⟩

/-- `s'` keeps every thread of `s` outside `C`, `H`, `P` as it was (threads are never removed: the counters only grow) -/
structure Frame (C H P : E → Nat → Prop) (s s' : State) : Prop where
  nc       : ∀ x, s.nextCall x ≤ s'.nextCall x
  nh       : ∀ x, s.nextHandler x ≤ s'.nextHandler x
  np       : ∀ x, s.nextPub x ≤ s'.nextPub x
  calls    : ∀ x i, i < s.nextCall x → ¬ C x i → s'.calls x i = s.calls x i
  handlers : ∀ x i, i < s.nextHandler x → ¬ H x i → s'.handlers x i = s.handlers x i
  pubs     : ∀ x i, i < s.nextPub x → ¬ P x i → s'.pubs x i = s.pubs x i

theorem Step.frame {sk : Skeleton} {s s' : State} {a : Act} (h : Step sk s a s') (ha : a.In C H P) :
    Frame C H P s s' := by
  obtain ⟨hc, hh, hp⟩ := ha
  cases h <;> constructor <;> intro x
  all_goals first
    | exact Nat.le_refl _
    | (intros; rfl)
    | (dsimp only [updE_apply]; split <;> rename_i hx <;> (try subst hx) <;> omega)
    | (intro i hi hn
       simp only [upd2_apply]
       split
       · rename_i hx; obtain ⟨rfl, rfl⟩ := hx
         first | exact absurd hi (Nat.lt_irrefl _) | exact absurd (hc _ _ rfl) hn | exact absurd (hh _ _ rfl) hn
               | exact absurd (hp _ _ rfl) hn
       · rfl)

theorem Frame.refl (s : State) : Frame C H P s s :=
  ⟨fun _ => Nat.le_refl _, fun _ => Nat.le_refl _, fun _ => Nat.le_refl _,
   fun _ _ _ _ => rfl, fun _ _ _ _ => rfl, fun _ _ _ _ => rfl⟩

theorem Frame.trans {s s1 s' : State} (h1 : Frame C H P s s1) (h2 : Frame C H P s1 s') : Frame C H P s s' :=
  ⟨fun x => Nat.le_trans (h1.nc x) (h2.nc x), fun x => Nat.le_trans (h1.nh x) (h2.nh x),
   fun x => Nat.le_trans (h1.np x) (h2.np x),
   fun x i hi hn => by rw [h2.calls x i (Nat.lt_of_lt_of_le hi (h1.nc x)) hn, h1.calls x i hi hn],
   fun x i hi hn => by rw [h2.handlers x i (Nat.lt_of_lt_of_le hi (h1.nh x)) hn, h1.handlers x i hi hn],
   fun x i hi hn => by rw [h2.pubs x i (Nat.lt_of_lt_of_le hi (h1.np x)) hn, h1.pubs x i hi hn]⟩

theorem run_cons_some (sk : Skeleton) {s s1 : State} {a : Act} (as : List Act) (h : step sk s a = some s1) :
    run sk s (a :: as) = run sk s1 as := by
  rw [run_cons, h]; rfl

theorem run_frame (sk : Skeleton) (acts : List Act) {s s' : State} (h : run sk s acts = some s')
    (ha : ∀ a, a ∈ acts → a.In C H P) : Frame C H P s s' :=
  (runFrom_rel (step := step sk) (I := fun _ => True) (P := Act.In C H P) Frame.refl Frame.trans
    (fun _ ha hs => ⟨trivial, (Step.of_step hs).frame ha⟩) trivial ha h).2

end Panrpc.Sys
