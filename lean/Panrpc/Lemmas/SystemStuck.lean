/-
  Lemmas/SystemStuck.lean — M3: the decidable test `stuck` (Model/System.lean) for "no thread of
  the link can take a step" is sound: for reachable states `candidates` is complete, so `stuck`
  really means that nothing but a new top-level call can happen.
-/
import Panrpc.Lemmas.System

namespace Panrpc.Sys

/-- the free parameters of user code (what it calls, what it returns) do not matter for enabledness -/
def Act.norm : Act → Act
  | .handlerCallPeer e h _ _ => .handlerCallPeer e h 0 0
  | .handlerReturn e h _ _ => .handlerReturn e h 0 0
  | a => a

theorem step_norm_isSome (sk : Skeleton) (s : State) (a : Act) :
    (step sk s a.norm).isSome = (step sk s a).isSome := by
  cases a <;> simp only [Act.norm]
  all_goals (simp only [step]; split <;> rfl)

theorem mem_candidates_of_at {s : State} {a : Act} (e : E) (h : a ∈ candidatesAt s e) : a ∈ candidates s := by
  cases e <;> simp [candidates, h]

theorem Step.threads_exist {sk : Skeleton} {s s' : State} {a : Act} (hs : Step sk s a s') :
    a.In (fun x i => (s.calls x i).pc ≠ .absent) (fun x i => (s.handlers x i).pc ≠ .absent)
      fun x i => s.pubs x i ≠ .absent := by
  cases hs <;> simp_all [Act.In] <;> (intro h0; simp_all [CPc.waiting])

theorem norm_mem_candidates {s : State} (h : AllInv s) (sk : Skeleton) (a : Act)
    (hns : ∀ e fn args, a ≠ .callStart e fn args) (hen : (step sk s a).isSome = true) :
    a.norm ∈ candidates s := by
  obtain ⟨s', hs⟩ := Option.isSome_iff_exists.mp hen
  replace hs := Step.of_step hs
  obtain ⟨hc, hh, hp⟩ := hs.threads_exist
  cases a
  case callStart => exact absurd rfl (hns _ _ _)
  case reqDeliver e i | resDeliver e i =>
    cases hs; rename_i hi
    have := (List.getElem?_eq_some_iff.mp hi).1
    exact mem_candidates_of_at e (by simp [candidatesAt, Act.norm, this])
  case callWrite e t | callRegister e t | callReturn e t =>
    have := h.c.call_lt e t (hc e t rfl)
    exact mem_candidates_of_at e (by simp [candidatesAt, Act.norm, this])
  case publish e p t =>
    have := h.sv.pub_lt e p (hp e p rfl)
    have := h.c.call_lt e t (hc e t rfl)
    exact mem_candidates_of_at e (by simp [candidatesAt, Act.norm, *])
  case publishDrop e p =>
    have := h.sv.pub_lt e p (hp e p rfl)
    exact mem_candidates_of_at e (by simp [candidatesAt, Act.norm, this])
  case handlerCallPeer e i _ _ | handlerReturn e i _ _ | handlerEnter e i | handlerStall e i | handlerResume e i
      | handlerNestedDone e i | respond e i =>
    have := h.r.h_lt e i (hh e i rfl)
    exact mem_candidates_of_at e (by simp [candidatesAt, Act.norm, this])
/-- `stuck` means what it says: in a reachable state that passes the test, the only enabled
    actions are new top-level calls -/
theorem stuck_sound (sk : Skeleton) (hf : Facts sk) {s : State} (hr : Reach sk s) (hst : stuck sk s = true)
    (a : Act) (hns : ∀ e fn args, a ≠ .callStart e fn args) : step sk s a = none := by
  refine Option.not_isSome_iff_eq_none.mp fun h1 => ?_
  -- an enabled action's normal form is one of the candidates the test tried …
  have hm := norm_mem_candidates (reach_all sk hf hr) sk a hns h1
  -- … every one of which it found disabled; and `a` is enabled iff its normal form is
  simp only [stuck, List.all_eq_true, Option.isNone_iff_eq_none] at hst
  rw [← step_norm_isSome, hst _ hm] at h1
  cases h1

end Panrpc.Sys
