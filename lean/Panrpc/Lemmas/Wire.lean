/-
  Lemmas/Wire.lean — general lemmas about P3 (Model/Wire.lean), for every skeleton that has the
  facts named in the hypothesis bundles below.
-/
import Panrpc.Model.Wire

namespace Panrpc.Wire

/-- the stub builds `Request{Call: callID, Function: name, Args: []T{}}`, skips the context and
    appends one encoding per further argument, in order; funcs travel as their closure id -/
structure ReqFacts (sk : Skeleton) : Prop where
  call       : sk.stubRequestCallIsCallId = true
  fn         : sk.stubRequestFunctionIsName = true
  initEmpty  : sk.stubRequestArgsInitEmpty = true
  ctxSkipped : sk.stubCtxSkipped = true
  inOrder    : sk.stubArgsAppendInOrder = true
  funcReg    : sk.stubFuncArgsRegistered = true

/-- every `Response` literal has `Call: req.Call` and the documented `Value` / `Err` -/
structure ResFacts (sk : Skeleton) : Prop where
  call   : sk.reqResponseCallIsReqCall = true
  shapes : sk.reqRespShapesOk = true

/-- the struct tags are the documented member names -/
structure DocTags (sk : Skeleton) : Prop where
  reqCall     : sk.tagReqCall = "call"
  reqFunction : sk.tagReqFunction = "function"
  reqArgs     : sk.tagReqArgs = "args"
  resCall     : sk.tagResCall = "call"
  resValue    : sk.tagResValue = "value"
  resErr      : sk.tagResErr = "err"
  msgRequest  : sk.tagMsgRequest = "request"
  msgResponse : sk.tagMsgResponse = "response"

/-- response loop and result decoding of the stub -/
structure DecFacts (sk : Skeleton) : Prop where
  trim    : sk.respErrIffTrimNonEmpty = true
  fresh   : sk.respErrFreshPerFrame = true
  errFrom : sk.stubErrResultFromResponse = true
  oneOut  : sk.stubOneOutDecodesValueOnlyIfNotError = true
  twoOut  : sk.stubTwoOutSkipsDecodeWhenCancelled = true

structure EnvFacts (sk : Skeleton) : Prop where
  reqOnly : sk.stEncodeRequestOnly = true
  resOnly : sk.stEncodeResponseOnly = true

theorem dropWhile_eq_nil {α : Type} (p : α → Bool) (l : List α) :
    l.dropWhile p = [] ↔ ∀ x ∈ l, p x = true := by
  refine ⟨fun h => ?_, fun h => by simpa using List.dropWhile_append_of_pos (l₂ := []) h⟩
  simpa [h] using List.any_dropWhile (p := p) (l := l)

theorem trimSpace_eq_nil_iff (s : List Char) :
    trimSpace s = [] ↔ ∀ c ∈ s, isGoSpace c = true := by
  -- dropping the leading blanks does not change whether all characters are blank
  have h := List.any_dropWhile (p := isGoSpace) (l := s)
  rw [← List.not_all_eq_any_not, Bool.not_inj_iff] at h
  simp only [trimSpace, List.reverse_eq_nil_iff, dropWhile_eq_nil, List.mem_reverse, ← List.all_eq_true, h]

theorem trimSpace_ne_nil_iff (s : List Char) :
    trimSpace s ≠ [] ↔ ∃ c ∈ s, isGoSpace c = false := by
  simp [trimSpace_eq_nil_iff]

theorem nonBlank_iff (m : String) : nonBlank m = true ↔ ∃ c ∈ m.toList, isGoSpace c = false := by
  rw [← trimSpace_ne_nil_iff]
  simp [nonBlank]

theorem lookupLast_none {α : Type} (k : String) (kvs : List (String × α))
    (h : ∀ v, (k, v) ∉ kvs) : lookupLast k kvs = none := by
  induction kvs with
  | nil => rfl
  | cons kv r ih =>
    have hk : kv.1 ≠ k := fun e => h kv.2 (by simp [← e])
    simp [lookupLast, ih fun v hv => h v (List.mem_cons_of_mem _ hv), hk]

theorem lookupLast_last {α : Type} (k : String) (v : α) (l : List (String × α)) :
    lookupLast k (l ++ [(k, v)]) = some v := by
  induction l with
  | nil => simp [lookupLast]
  | cons kv r ih => obtain ⟨k', v'⟩ := kv; simp [lookupLast, ih]

theorem lookupLast_of_mem_nodup {α : Type} (k : String) (v : α) (kvs : List (String × α))
    (hn : (kvs.map Prod.fst).Nodup) (hm : (k, v) ∈ kvs) : lookupLast k kvs = some v := by
  induction kvs with
  | nil => cases hm
  | cons kv r ih =>
    simp only [List.map_cons, List.nodup_cons] at hn
    rcases List.mem_cons.mp hm with rfl | hm'
    · simp [lookupLast, lookupLast_none k r fun w hw => hn.1 (List.mem_map.mpr ⟨_, hw, rfl⟩)]
    · simp [lookupLast, ih hn.2 hm']

theorem payloads_map_raw {α P : Type} (f : α → P) (l : List α) :
    payloads (l.map fun a => Tree.raw (f a)) = some (l.map f) := by
  induction l with
  | nil => rfl
  | cons a t ih => simp [payloads, ih]

theorem argElem_eq {V P : Type} (sk : Skeleton) (σ : Codec V P) (h : sk.stubFuncArgsRegistered = true)
    (a : Arg V) : argElem sk σ a = .raw (σ.enc (argValue σ a)) := by
  cases a <;> simp [argElem, argValue, h]

/-- `a` is the first argument (the context), `rest` the others. -/
theorem mkRequest_eq {V P : Type} (sk : Skeleton) (h : ReqFacts sk) (σ : Codec V P)
    (callId name : String) (a : Arg V) (rest : List (Arg V)) :
    mkRequest sk σ callId name (a :: rest) =
      .obj [ (sk.tagReqCall, .str callId), (sk.tagReqFunction, .str name),
             (sk.tagReqArgs, .arr (rest.map fun x => .raw (σ.enc (argValue σ x)))) ] := by
  obtain ⟨h1, h2, h3, h4, h5, h6⟩ := h
  have he : argElem sk σ = fun x => Tree.raw (σ.enc (argValue σ x)) := funext (argElem_eq sk σ h6)
  cases rest with
  | nil => simp [mkRequest, argsTree, wireArgs, h1, h2, h3, h4, h5]
  | cons b t => simp [mkRequest, argsTree, wireArgs, h1, h2, h4, h5, he]

theorem mkRequest_first_irrelevant {V P : Type} (sk : Skeleton) (h : sk.stubCtxSkipped = true)
    (σ : Codec V P) (callId name : String) (a b : Arg V) (rest : List (Arg V)) :
    mkRequest sk σ callId name (a :: rest) = mkRequest sk σ callId name (b :: rest) := by
  simp [mkRequest, argsTree, wireArgs, h]

theorem reqArgsField_mkRequest {V P : Type} (sk : Skeleton) (h : ReqFacts sk) (σ : Codec V P)
    (callId name : String) (a : Arg V) (rest : List (Arg V)) :
    reqArgsField sk (mkRequest sk σ callId name (a :: rest)) =
      some (rest.map fun x => σ.enc (argValue σ x)) := by
  -- `args` is the last member: `lookupLast` finds it whatever the other two tags are
  simp [mkRequest_eq sk h, reqArgsField, Tree.field, lookupLast, payloads_map_raw]

/-- Position by position, the handler's values are the caller's after one round trip. -/
theorem handlerArgs_mkRequest {V P : Type} (sk : Skeleton) (h : ReqFacts sk) (σ : Codec V P)
    (callId name : String) (a : Arg V) (rest : List (Arg V)) (tys : List Nat) :
    (reqArgsField sk (mkRequest sk σ callId name (a :: rest))).map (fun ps => handlerArgs σ ps tys) =
      some (List.zipWith (fun x τ => rt σ τ (argValue σ x)) rest tys) := by
  rw [reqArgsField_mkRequest sk h]
  simp [handlerArgs, rt, List.zipWith_map_left]

theorem stubBuild_ctx {V P : Type} (sk : Skeleton) (h : sk.stubFuncArgsRegistered = true) (σ : Codec V P)
    (callId name : String) (rest : List (Arg V)) :
    stubBuild sk σ callId name (.ctx :: rest) = .frame (mkRequest sk σ callId name (.ctx :: rest)) := by
  simp [stubBuild, h]

theorem stubBuild_frame {V P : Type} {sk : Skeleton} {σ : Codec V P} {callId name : String}
    {args : List (Arg V)} {rq : Tree P} (h : stubBuild sk σ callId name args = .frame rq) :
    rq = mkRequest sk σ callId name args := by
  unfold stubBuild at h
  split at h <;> (try split at h) <;> cases h
  rfl

theorem mkResponse_eq {V P : Type} (sk : Skeleton) (h : ResFacts sk) (σ : Codec V P)
    (reqCall : String) (r : Ret V) :
    mkResponse sk σ reqCall r =
      .obj [ (sk.tagResCall, .str reqCall), (sk.tagResValue, .raw (respValue σ r)),
             (sk.tagResErr, .str (respErrStr r)) ] := by
  simp [mkResponse, h.call, h.shapes]

theorem respValue_eq {V P : Type} (σ : Codec V P) (r : Ret V) :
    respValue σ r = ((r.val).map σ.enc).getD σ.encNil := by
  cases r <;> rfl

theorem respErrStr_eq_err {V : Type} (r : Ret V) : respErrStr r = (r.err).getD "" := by
  cases r with
  | none0 => rfl
  | oneErr e => cases e <;> rfl
  | oneVal v => rfl
  | two v e => cases e <;> rfl

/-- `err` is empty exactly when the error is nil — provided no non-nil error has the message "". -/
theorem respErrStr_empty_iff {V : Type} (r : Ret V) (hne : ∀ m, r.err = some m → m ≠ "") :
    respErrStr r = "" ↔ r.err = none := by
  rw [respErrStr_eq_err]
  cases he : r.err with
  | none => simp
  | some m => simpa using hne m he

theorem resErrField_mkResponse {V P : Type} (sk : Skeleton) (h : ResFacts sk) (σ : Codec V P)
    (reqCall : String) (r : Ret V) :
    resErrField sk (mkResponse sk σ reqCall r) = some (respErrStr r) := by
  simp [mkResponse_eq sk h, resErrField, Tree.field, lookupLast]

theorem callerResult_mkResponse {V P : Type} (sk : Skeleton) (h : ResFacts sk)
    (hd : sk.tagResErr ≠ sk.tagResValue) (σ : Codec V P) (prev : Option String) (numOut : Nat)
    (outIsErr : Bool) (ty : Nat) (reqCall : String) (r : Ret V) :
    callerResult sk σ prev numOut outIsErr ty (mkResponse sk σ reqCall r) =
      some (decodeResult sk σ numOut outIsErr false (respValue σ r) (respErr sk prev (respErrStr r)) ty) := by
  simp [mkResponse_eq sk h, callerResult, Tree.field, lookupLast, hd]

theorem respErr_nonblank (sk : Skeleton) (h : DecFacts sk) (prev : Option String) (m : String)
    (hm : ∃ c ∈ m.toList, isGoSpace c = false) : respErr sk prev m = some m := by
  simp [respErr, h.trim, (nonBlank_iff m).mpr hm]

theorem respErr_blank (sk : Skeleton) (h : DecFacts sk) (prev : Option String) (m : String)
    (hm : ∀ c ∈ m.toList, isGoSpace c = true) : respErr sk prev m = none := by
  have : nonBlank m = false := by rw [← Bool.not_eq_true, nonBlank_iff]; simpa using hm
  simp [respErr, h.fresh, this]

theorem respErr_empty (sk : Skeleton) (h : DecFacts sk) (prev : Option String) :
    respErr sk prev "" = none :=
  respErr_blank sk h prev "" (by simp)

theorem decodeResult_one_err {V P : Type} (sk : Skeleton) (h : DecFacts sk) (σ : Codec V P)
    (c : Bool) (p : P) (e : Option String) (τ : Nat) :
    decodeResult sk σ 1 true c p e τ = .errOnly e := by
  cases e <;> simp [decodeResult, h.errFrom, h.oneOut]

theorem decodeResult_one_val {V P : Type} (sk : Skeleton) (σ : Codec V P)
    (c : Bool) (p : P) (τ : Nat) :
    decodeResult sk σ 1 false c p none τ =
      .ofDec1 (σ.dec p τ) := by
  simp [decodeResult]

theorem decodeResult_two {V P : Type} (sk : Skeleton) (h : DecFacts sk) (σ : Codec V P)
    (o : Bool) (p : P) (e : Option String) (τ : Nat) :
    decodeResult sk σ 2 o false p e τ =
      .ofDec2 e (σ.dec p τ) := by
  simp [decodeResult, h.errFrom]

/-- an envelope carries the frame under its own tag and `null` under the other -/
theorem mkEnvelope_eq {P : Type} (sk : Skeleton) (h : EnvFacts sk) (b : Bool) (f : Tree P) :
    mkEnvelope sk b f =
      .obj [(sk.tagMsgRequest, if b then f else .null), (sk.tagMsgResponse, if b then .null else f)] := by
  cases b <;> simp [mkEnvelope, h.reqOnly, h.resOnly]

/-- Any object with unique keys that has the documented members — in any order, among any other
    members, `args` possibly absent or `null` when there are no arguments — is accepted. -/
theorem parseRequest_accepts {P : Type} (kvs : List (String × Tree P)) (c f : String) (ps : List P)
    (hn : (kvs.map Prod.fst).Nodup)
    (hc : ("call", Tree.str c) ∈ kvs) (hf : ("function", Tree.str f) ∈ kvs)
    (ha : ("args", Tree.arr (ps.map Tree.raw)) ∈ kvs ∨
          (ps = [] ∧ (("args", Tree.null) ∈ kvs ∨ ∀ v, ("args", v) ∉ kvs))) :
    parseRequest (.obj kvs) = some (c, f, ps) := by
  have h1 := lookupLast_of_mem_nodup _ _ kvs hn hc
  have h2 := lookupLast_of_mem_nodup _ _ kvs hn hf
  rcases ha with ha | ⟨rfl, ha | ha⟩
  · simpa [parseRequest, h1, h2, lookupLast_of_mem_nodup _ _ kvs hn ha] using payloads_map_raw id ps
  · simp [parseRequest, h1, h2, lookupLast_of_mem_nodup _ _ kvs hn ha]
  · simp [parseRequest, h1, h2, lookupLast_none "args" kvs ha]

/-- panrpc's own request frames decode with the independent decoder to what was sent. -/
theorem parseRequest_mkRequest {V P : Type} (sk : Skeleton) (h : ReqFacts sk) (ht : DocTags sk)
    (σ : Codec V P) (callId name : String) (a : Arg V) (rest : List (Arg V)) :
    parseRequest (mkRequest sk σ callId name (a :: rest)) =
      some (callId, name, rest.map fun x => σ.enc (argValue σ x)) := by
  rw [mkRequest_eq sk h, ht.reqCall, ht.reqFunction, ht.reqArgs]
  simp [parseRequest, lookupLast, payloads_map_raw]

/-- Whatever the independent decoder accepts, Go's decoder reads identically. -/
theorem goDecodeRequest_of_parseRequest {P : Type} (sk : Skeleton) (ht : DocTags sk) (t : Tree P)
    (x : String × String × List P) (hp : parseRequest t = some x) : goDecodeRequest sk t = some x := by
  cases t with
  | obj kvs =>
    simp only [parseRequest] at hp
    simp only [goDecodeRequest, strField, reqArgsField, Tree.field, ht.reqCall, ht.reqFunction, ht.reqArgs]
    split at hp
    · next c f hc hf =>
      rw [hc, hf]
      split at hp <;> simp_all
      obtain ⟨ps, h1, rfl⟩ := hp
      simp [h1]
    · cases hp
  | _ => simp [parseRequest] at hp

theorem goDecodeRequest_mkRequest {V P : Type} (sk : Skeleton) (h : ReqFacts sk) (ht : DocTags sk)
    (σ : Codec V P) (callId name : String) (a : Arg V) (rest : List (Arg V)) :
    goDecodeRequest sk (mkRequest sk σ callId name (a :: rest)) =
      some (callId, name, rest.map fun x => σ.enc (argValue σ x)) :=
  goDecodeRequest_of_parseRequest sk ht _ _ (parseRequest_mkRequest sk h ht σ callId name a rest)

theorem parseResponse_mkResponse {V P : Type} (sk : Skeleton) (h : ResFacts sk) (ht : DocTags sk)
    (σ : Codec V P) (reqCall : String) (r : Ret V) :
    parseResponse (mkResponse sk σ reqCall r) = some (reqCall, respValue σ r, respErrStr r) := by
  rw [mkResponse_eq sk h, ht.resCall, ht.resValue, ht.resErr]
  simp [parseResponse, lookupLast]

theorem parseEnvelope_mkEnvelope {P : Type} (sk : Skeleton) (h : EnvFacts sk) (ht : DocTags sk)
    (isRequest : Bool) (f : Tree P) (hf : f.isNull = false) :
    parseEnvelope (mkEnvelope sk isRequest f) = some (isRequest, f) := by
  rw [mkEnvelope_eq sk h, ht.msgRequest, ht.msgResponse]
  cases isRequest <;> cases f <;> simp_all [parseEnvelope, lookupLast, Tree.isNull]

end Panrpc.Wire
