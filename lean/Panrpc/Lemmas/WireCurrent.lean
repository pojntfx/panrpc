/-
  Lemmas/WireCurrent.lean — the source facts P3's theorems rest on, checked against the skeleton
  regenerated from /repo on this run.  A change of the stub's `Request` literal, of one of the five
  `Response` literals, of a struct tag, of the response loop's `TrimSpace` test or of the stub's
  result decoding makes one of these `decide`s fail.
-/
import Panrpc.Lemmas.Wire
import Panrpc.Generated.Current

namespace Panrpc.Wire

theorem cur_req : ReqFacts Skeleton.current := by constructor <;> decide
theorem cur_res : ResFacts Skeleton.current := by constructor <;> decide
theorem cur_tags : DocTags Skeleton.current := by constructor <;> decide
theorem cur_dec : DecFacts Skeleton.current := by constructor <;> decide
theorem cur_env : EnvFacts Skeleton.current := by constructor <;> decide
theorem cur_err_value_distinct : Skeleton.current.tagResErr ≠ Skeleton.current.tagResValue := by decide

end Panrpc.Wire
