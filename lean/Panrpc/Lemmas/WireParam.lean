/-
  C08, payload parametricity of P3 (Model/Wire.lean) as a functoriality theorem.  The wire model
  touches payloads only through the serializer record `σ : Codec V P`.  For a payload translation
  `f : P₁ → P₂` that is a codec homomorphism (`CodecHom f σ₁ σ₂`), every frame constructor and every
  frame decoder commutes with `Tree.map f`, and decoding a payload into an application value gives
  the same value on both sides; hence one call (`callObservables`) has equal observables under `σ₁`
  and `σ₂`.

  No parametricity lemma has a hypothesis on the skeleton (it holds also for the deliberately wrong
  branches of the model); only that the link kind does not matter needs `EnvFacts` and `DocTags`.
-/
import Panrpc.Lemmas.Wire

namespace Panrpc.Wire

mutual
  def Tree.map {P₁ P₂ : Type} (f : P₁ → P₂) : Tree P₁ → Tree P₂
    | .null => .null
    | .str s => .str s
    | .arr xs => .arr (Tree.mapList f xs)
    | .obj kvs => .obj (Tree.mapKvs f kvs)
    | .raw p => .raw (f p)
  def Tree.mapList {P₁ P₂ : Type} (f : P₁ → P₂) : List (Tree P₁) → List (Tree P₂)
    | [] => []
    | t :: r => Tree.map f t :: Tree.mapList f r
  def Tree.mapKvs {P₁ P₂ : Type} (f : P₁ → P₂) : List (String × Tree P₁) → List (String × Tree P₂)
    | [] => []
    | (k, t) :: r => (k, Tree.map f t) :: Tree.mapKvs f r
end

theorem Tree.mapList_eq {P₁ P₂ : Type} (f : P₁ → P₂) (xs : List (Tree P₁)) :
    Tree.mapList f xs = xs.map (Tree.map f) := by
  induction xs with
  | nil => rfl
  | cons t r ih => simp [Tree.mapList, ih]

theorem Tree.mapKvs_eq {P₁ P₂ : Type} (f : P₁ → P₂) (kvs : List (String × Tree P₁)) :
    Tree.mapKvs f kvs = kvs.map (fun kv => (kv.1, Tree.map f kv.2)) := by
  induction kvs with
  | nil => rfl
  | cons kv r ih => obtain ⟨k, t⟩ := kv; simp [Tree.mapKvs, ih]

mutual
  theorem Tree.map_id {P : Type} : ∀ t : Tree P, Tree.map (fun p => p) t = t
    | .null => rfl
    | .str _ => rfl
    | .arr xs => by simp only [Tree.map, Tree.mapList_id xs]
    | .obj kvs => by simp only [Tree.map, Tree.mapKvs_id kvs]
    | .raw _ => rfl
  theorem Tree.mapList_id {P : Type} : ∀ xs : List (Tree P), Tree.mapList (fun p => p) xs = xs
    | [] => rfl
    | t :: r => by simp only [Tree.mapList, Tree.map_id t, Tree.mapList_id r]
  theorem Tree.mapKvs_id {P : Type} : ∀ kvs : List (String × Tree P), Tree.mapKvs (fun p => p) kvs = kvs
    | [] => rfl
    | (k, t) :: r => by simp only [Tree.mapKvs, Tree.map_id t, Tree.mapKvs_id r]
end

mutual
  theorem Tree.map_comp {P₁ P₂ P₃ : Type} (f : P₁ → P₂) (g : P₂ → P₃) :
      ∀ t : Tree P₁, Tree.map (fun p => g (f p)) t = Tree.map g (Tree.map f t)
    | .null => rfl
    | .str _ => rfl
    | .arr xs => by simp only [Tree.map, Tree.mapList_comp f g xs]
    | .obj kvs => by simp only [Tree.map, Tree.mapKvs_comp f g kvs]
    | .raw _ => rfl
  theorem Tree.mapList_comp {P₁ P₂ P₃ : Type} (f : P₁ → P₂) (g : P₂ → P₃) :
      ∀ xs : List (Tree P₁), Tree.mapList (fun p => g (f p)) xs = Tree.mapList g (Tree.mapList f xs)
    | [] => rfl
    | t :: r => by simp only [Tree.mapList, Tree.map_comp f g t, Tree.mapList_comp f g r]
  theorem Tree.mapKvs_comp {P₁ P₂ P₃ : Type} (f : P₁ → P₂) (g : P₂ → P₃) :
      ∀ kvs : List (String × Tree P₁), Tree.mapKvs (fun p => g (f p)) kvs = Tree.mapKvs g (Tree.mapKvs f kvs)
    | [] => rfl
    | (k, t) :: r => by simp only [Tree.mapKvs, Tree.map_comp f g t, Tree.mapKvs_comp f g r]
end

def Built.map {P₁ P₂ : Type} (f : P₁ → P₂) : Built P₁ → Built P₂
  | .frame t => .frame (t.map f)
  | .panic why => .panic why

/-- `f` translates the payloads of `σ₁` into those of `σ₂`: encoding with `σ₂` is encoding with
    `σ₁` followed by `f`, and decoding an `f`-image with `σ₂` is decoding the original with `σ₁`.
    The three `V`-side members (how the library presents a closure id, the type tag of `string`,
    a context) do not involve payloads and are equal. -/
structure CodecHom {V P₁ P₂ : Type} (f : P₁ → P₂) (σ₁ : Codec V P₁) (σ₂ : Codec V P₂) : Prop where
  enc    : ∀ v, σ₂.enc v = f (σ₁.enc v)
  encNil : σ₂.encNil = f σ₁.encNil
  dec    : ∀ p τ, σ₂.dec (f p) τ = σ₁.dec p τ
  ofStr  : ∀ s, σ₂.ofStr s = σ₁.ofStr s
  strTy  : σ₂.strTy = σ₁.strTy
  ctxVal : σ₂.ctxVal = σ₁.ctxVal

theorem CodecHom.refl {V P : Type} (σ : Codec V P) : CodecHom (fun p => p) σ σ :=
  ⟨fun _ => rfl, rfl, fun _ _ => rfl, fun _ => rfl, rfl, rfl⟩

theorem CodecHom.comp {V P₁ P₂ P₃ : Type} {f : P₁ → P₂} {g : P₂ → P₃}
    {σ₁ : Codec V P₁} {σ₂ : Codec V P₂} {σ₃ : Codec V P₃}
    (h : CodecHom f σ₁ σ₂) (k : CodecHom g σ₂ σ₃) : CodecHom (fun p => g (f p)) σ₁ σ₃ :=
  ⟨fun v => by rw [k.enc, h.enc], by rw [k.encNil, h.encNil], fun p τ => by rw [k.dec, h.dec],
   fun s => by rw [k.ofStr, h.ofStr], by rw [k.strTy, h.strTy], by rw [k.ctxVal, h.ctxVal]⟩

/-- Pushing a codec forward along a translation that has a left inverse: `σ.pushforward f g` encodes
    with `σ` then `f`, decodes after `g`.  Every serializer obtained from another by an injective
    re-encoding of its output (text ↦ bytes, bytes ↦ base64, …) is of this form. -/
def Codec.pushforward {V P₁ P₂ : Type} (σ : Codec V P₁) (f : P₁ → P₂) (g : P₂ → P₁) : Codec V P₂ where
  enc := fun v => f (σ.enc v)
  encNil := f σ.encNil
  dec := fun q τ => σ.dec (g q) τ
  ofStr := σ.ofStr
  strTy := σ.strTy
  ctxVal := σ.ctxVal

theorem CodecHom.pushforward {V P₁ P₂ : Type} (σ : Codec V P₁) (f : P₁ → P₂) (g : P₂ → P₁)
    (hgf : ∀ p, g (f p) = p) : CodecHom f σ (σ.pushforward f g) :=
  ⟨fun _ => rfl, rfl, fun p τ => by simp [Codec.pushforward, hgf], fun _ => rfl, rfl, rfl⟩

section Access
variable {P₁ P₂ : Type} (f : P₁ → P₂)

theorem lookupLast_mapKvs (k : String) (kvs : List (String × Tree P₁)) :
    lookupLast k (Tree.mapKvs f kvs) = (lookupLast k kvs).map (Tree.map f) := by
  induction kvs with
  | nil => rfl
  | cons kv r ih =>
    obtain ⟨k', v⟩ := kv
    simp only [Tree.mapKvs, lookupLast, ih]
    cases lookupLast k r with
    | some w => rfl
    | none => by_cases e : k' = k <;> simp [e]

theorem Tree.field_map (k : String) (t : Tree P₁) :
    (t.map f).field k = (t.field k).map (Tree.map f) := by
  cases t <;> simp [Tree.map, Tree.field, lookupLast_mapKvs]

theorem Tree.isNull_map (t : Tree P₁) : (t.map f).isNull = t.isNull := by
  cases t <;> rfl

theorem Tree.keys_map (t : Tree P₁) : (t.map f).keys = t.keys := by
  cases t <;> simp [Tree.map, Tree.keys, Tree.mapKvs_eq, Function.comp_def]

theorem payloads_mapList (xs : List (Tree P₁)) :
    payloads (Tree.mapList f xs) = (payloads xs).map (List.map f) := by
  induction xs with
  | nil => rfl
  | cons t r ih =>
    cases t <;> simp only [Tree.mapList, Tree.map, payloads, Option.map_none]
    rw [ih]
    cases payloads r <;> rfl

theorem strField_map (k : String) (t : Tree P₁) : strField k (t.map f) = strField k t := by
  simp only [strField, Tree.field_map]
  cases t.field k with
  | none => rfl
  | some v => cases v <;> rfl

theorem reqArgsField_map (sk : Skeleton) (t : Tree P₁) :
    reqArgsField sk (t.map f) = (reqArgsField sk t).map (List.map f) := by
  simp only [reqArgsField, Tree.field_map]
  cases t.field sk.tagReqArgs with
  | none => rfl
  | some v =>
    cases v with
    | arr xs => simp only [Option.map_some, Tree.map]; exact payloads_mapList f xs
    | _ => rfl

theorem resErrField_map (sk : Skeleton) (t : Tree P₁) :
    resErrField sk (t.map f) = resErrField sk t := by
  simp only [resErrField, Tree.field_map]
  cases t.field sk.tagResErr with
  | none => rfl
  | some v => cases v <;> rfl

theorem goDecodeRequest_map (sk : Skeleton) (t : Tree P₁) :
    goDecodeRequest sk (t.map f) =
      (goDecodeRequest sk t).map (fun x => (x.1, x.2.1, x.2.2.map f)) := by
  cases t with
  | obj kvs =>
    -- `goDecodeRequest`'s outer match reduces on a literal `.obj` only, the field lemmas speak of `(·).map f`: unfold the
    -- map, reduce the match, fold the map back
    have e : Tree.obj (Tree.mapKvs f kvs) = (Tree.obj kvs).map f := rfl
    show goDecodeRequest sk (Tree.obj (Tree.mapKvs f kvs)) = _
    simp only [goDecodeRequest]
    rw [e, strField_map, strField_map, reqArgsField_map]
    cases strField sk.tagReqCall (Tree.obj kvs) <;>
      cases strField sk.tagReqFunction (Tree.obj kvs) <;>
      cases reqArgsField sk (Tree.obj kvs) <;> rfl
  | _ => rfl

theorem parseRequest_map (t : Tree P₁) :
    parseRequest (t.map f) = (parseRequest t).map (fun x => (x.1, x.2.1, x.2.2.map f)) := by
  cases t with
  | obj kvs =>
    simp only [Tree.map, parseRequest, lookupLast_mapKvs]
    cases lookupLast "call" kvs with
    | none => rfl
    | some c =>
      cases c <;> try rfl
      cases lookupLast "function" kvs with
      | none => rfl
      | some g =>
        cases g <;> try rfl
        cases lookupLast "args" kvs with
        | none => rfl
        | some a =>
          cases a <;> try rfl
          simp only [Option.map_some, Tree.map, payloads_mapList]
          cases payloads _ <;> rfl
  | _ => rfl

theorem parseResponse_map (t : Tree P₁) :
    parseResponse (t.map f) = (parseResponse t).map (fun x => (x.1, f x.2.1, x.2.2)) := by
  cases t with
  | obj kvs =>
    simp only [Tree.map, parseResponse, lookupLast_mapKvs]
    cases lookupLast "call" kvs with
    | none => rfl
    | some c =>
      cases c <;> try rfl
      cases lookupLast "value" kvs with
      | none => rfl
      | some v =>
        cases v <;> try rfl
        cases lookupLast "err" kvs with
        | none => rfl
        | some e => cases e <;> rfl
  | _ => rfl

theorem parseEnvelope_map (t : Tree P₁) :
    parseEnvelope (t.map f) = (parseEnvelope t).map (fun x => (x.1, x.2.map f)) := by
  cases t with
  | obj kvs =>
    -- an absent member reads as `null`, which `map` keeps, so both sides test the same two `isNull`s
    have hd : ∀ o : Option (Tree P₁), (o.map (Tree.map f)).getD .null = (o.getD .null).map f :=
      fun o => by cases o <;> rfl
    simp only [Tree.map, parseEnvelope, lookupLast_mapKvs, hd, Tree.isNull_map]
    split <;> rfl
  | _ => rfl

theorem mkEnvelope_map (sk : Skeleton) (isRequest : Bool) (t : Tree P₁) :
    mkEnvelope sk isRequest (t.map f) = (mkEnvelope sk isRequest t).map f := by
  unfold mkEnvelope
  cases isRequest <;> cases sk.stEncodeRequestOnly <;> cases sk.stEncodeResponseOnly <;> rfl

end Access

section Hom
variable {V P₁ P₂ : Type} {f : P₁ → P₂} {σ₁ : Codec V P₁} {σ₂ : Codec V P₂}

theorem rt_hom (h : CodecHom f σ₁ σ₂) (τ : Nat) (v : V) : rt σ₂ τ v = rt σ₁ τ v := by
  simp [rt, h.enc, h.dec]

theorem argValue_hom (h : CodecHom f σ₁ σ₂) (a : Arg V) : argValue σ₂ a = argValue σ₁ a := by
  cases a <;> simp [argValue, h.ctxVal, h.ofStr]

theorem argElem_map (h : CodecHom f σ₁ σ₂) (sk : Skeleton) (a : Arg V) :
    argElem sk σ₂ a = (argElem sk σ₁ a).map f := by
  cases a with
  | func id =>
    simp only [argElem, h.enc, h.ofStr]
    cases sk.stubFuncArgsRegistered <;> rfl
  | ctx => simp [argElem, argValue, Tree.map, h.enc, h.ctxVal]
  | val v ty => simp [argElem, argValue, Tree.map, h.enc]

theorem argsTree_map (h : CodecHom f σ₁ σ₂) (sk : Skeleton) (args : List (Arg V)) :
    argsTree sk σ₂ args = (argsTree sk σ₁ args).map f := by
  unfold argsTree
  cases wireArgs sk args with
  | nil => cases sk.stubRequestArgsInitEmpty <;> rfl
  | cons a as =>
    simp only [Tree.map, Tree.mapList_eq, List.map_map]
    congr 1
    apply List.map_congr_left
    intro x _
    exact argElem_map h sk x

theorem mkRequest_map (h : CodecHom f σ₁ σ₂) (sk : Skeleton) (callId name : String) (args : List (Arg V)) :
    mkRequest sk σ₂ callId name args = (mkRequest sk σ₁ callId name args).map f := by
  simp only [mkRequest, Tree.map, Tree.mapKvs, argsTree_map h]

theorem stubBuild_map (h : CodecHom f σ₁ σ₂) (sk : Skeleton) (callId name : String) (args : List (Arg V)) :
    stubBuild sk σ₂ callId name args = (stubBuild sk σ₁ callId name args).map f := by
  cases args with
  | nil => rfl
  | cons a r =>
    cases a with
    | ctx =>
      simp only [stubBuild, mkRequest_map h]
      split <;> rfl
    | val | func => rfl

theorem respValue_map (h : CodecHom f σ₁ σ₂) (r : Ret V) : respValue σ₂ r = f (respValue σ₁ r) := by
  cases r <;> simp [respValue, h.enc, h.encNil]

theorem mkResponse_map (h : CodecHom f σ₁ σ₂) (sk : Skeleton) (reqCall : String) (r : Ret V) :
    mkResponse sk σ₂ reqCall r = (mkResponse sk σ₁ reqCall r).map f := by
  simp only [mkResponse, Tree.map, Tree.mapKvs, respValue_map h, h.encNil]
  cases sk.reqRespShapesOk <;> rfl

theorem handlerArgs_hom (h : CodecHom f σ₁ σ₂) (ps : List P₁) (tys : List Nat) :
    handlerArgs σ₂ (ps.map f) tys = handlerArgs σ₁ ps tys := by
  simp [handlerArgs, List.zipWith_map_left, h.dec]

theorem decodeResult_hom (h : CodecHom f σ₁ σ₂) (sk : Skeleton) (numOut : Nat) (outIsErr cancelled : Bool)
    (p : P₁) (err : Option String) (ty : Nat) :
    decodeResult sk σ₂ numOut outIsErr cancelled (f p) err ty =
      decodeResult sk σ₁ numOut outIsErr cancelled p err ty := by
  simp only [decodeResult, h.dec]

theorem callerResult_hom (h : CodecHom f σ₁ σ₂) (sk : Skeleton) (prev : Option String) (numOut : Nat)
    (outIsErr : Bool) (ty : Nat) (t : Tree P₁) :
    callerResult sk σ₂ prev numOut outIsErr ty (t.map f) = callerResult sk σ₁ prev numOut outIsErr ty t := by
  simp only [callerResult, Tree.field_map]
  cases t.field sk.tagResValue with
  | none => rfl
  | some v =>
    cases v <;> try rfl
    cases t.field sk.tagResErr with
    | none => rfl
    | some e =>
      cases e <;> try rfl
      simp only [Option.map_some, Tree.map, decodeResult_hom h]

end Hom

/-- What the two applications can observe of one call. -/
inductive CallObs (V : Type) where
  /-- the stub panicked before anything was sent (recovered → `setErr`) -/
  | stubPanic (why : String)
  /-- the callee could not decode the request frame -/
  | reqUndecodable
  /-- the handler ran (on `args`, for the function named `fn`, under call id `reqCall`), but the
      caller could not decode the response frame -/
  | resUndecodable (reqCall fn : String) (args : List (Option V))
  /-- the handler ran on `args`; the response carried call id `resCall` (`none`: not a string) and
      the stub returned `result` -/
  | done (reqCall fn : String) (args : List (Option V)) (resCall : Option String) (result : CallResult V)
  deriving Repr

/-- What arrives at the other end of the link for a frame written at this end.  Message link: the
    frame.  Stream link: the frame is wrapped by the write adapter (`mkEnvelope`), the decoder
    goroutine takes the envelope apart (`parseEnvelope`) and hands the member to the request loop
    (`isRequest`) resp. the response loop; a member of the wrong kind never reaches this loop. -/
def viaLink {P : Type} (sk : Skeleton) (stream isRequest : Bool) (frame : Tree P) : Option (Tree P) :=
  if stream then
    match parseEnvelope (mkEnvelope sk isRequest frame) with
    | some (b, t) => if b = isRequest then some t else none
    | none => none
  else some frame

/-- The composite: the caller's stub builds the request for `name(args)` under `callId`; it travels
    over the link; the callee decodes it (Go's `req.Unmarshal`), decodes the arguments into
    `paramTys`, the handler `hdl` (given the function name and the decoded arguments) returns
    `r : Ret V`; the callee builds the response; it travels back; the caller's response loop and
    stub (`callerResult`, for a function with `numOut` results, `Out(0)` of type `ty`) decode it. -/
def callObservables {V P : Type} (sk : Skeleton) (σ : Codec V P) (stream : Bool) (callId name : String)
    (args : List (Arg V)) (paramTys : List Nat) (hdl : String → List (Option V) → Ret V)
    (prev : Option String) (numOut : Nat) (outIsErr : Bool) (ty : Nat) : CallObs V :=
  match stubBuild sk σ callId name args with
  | .panic why => .stubPanic why
  | .frame rq =>
    match (viaLink sk stream true rq).bind (goDecodeRequest sk) with
    | none => .reqUndecodable
    | some (c, fn, ps) =>
      let as := handlerArgs σ ps paramTys
      match viaLink sk stream false (mkResponse sk σ c (hdl fn as)) with
      | none => .resUndecodable c fn as
      | some rs =>
        match callerResult sk σ prev numOut outIsErr ty rs with
        | none => .resUndecodable c fn as
        | some res => .done c fn as (strField sk.tagResCall rs) res

theorem viaLink_map {P₁ P₂ : Type} (f : P₁ → P₂) (sk : Skeleton) (stream isRequest : Bool) (t : Tree P₁) :
    viaLink sk stream isRequest (t.map f) = (viaLink sk stream isRequest t).map (Tree.map f) := by
  unfold viaLink
  cases stream with
  | false => rfl
  | true =>
    simp only [if_true, mkEnvelope_map, parseEnvelope_map]
    cases parseEnvelope (mkEnvelope sk isRequest t) with
    | none => rfl
    | some x =>
      obtain ⟨b, u⟩ := x
      simp only [Option.map_some]
      by_cases e : b = isRequest <;> simp [e]

/-- **Payload parametricity, end to end.**  For every skeleton, every workload item and both link
    kinds: if `f` is a codec homomorphism from `σ₁` to `σ₂`, one call has the same observables under
    both serializers — same panic, same decoded handler arguments, same function, same call ids, same
    `CallResult`. -/
theorem roundtrip_param {V P₁ P₂ : Type} {f : P₁ → P₂} {σ₁ : Codec V P₁} {σ₂ : Codec V P₂}
    (h : CodecHom f σ₁ σ₂) (sk : Skeleton) (stream : Bool) (callId name : String) (args : List (Arg V))
    (paramTys : List Nat) (hdl : String → List (Option V) → Ret V) (prev : Option String) (numOut : Nat)
    (outIsErr : Bool) (ty : Nat) :
    callObservables sk σ₂ stream callId name args paramTys hdl prev numOut outIsErr ty =
      callObservables sk σ₁ stream callId name args paramTys hdl prev numOut outIsErr ty := by
  unfold callObservables
  rw [stubBuild_map h]
  cases stubBuild sk σ₁ callId name args with
  | panic why => rfl
  | frame rq =>
    simp only [Built.map, viaLink_map]
    cases viaLink sk stream true rq with
    | none => rfl
    | some rq' =>
      simp only [Option.map_some, Option.bind_some, goDecodeRequest_map]
      cases goDecodeRequest sk rq' with
      | none => rfl
      | some x =>
        obtain ⟨c, fn, ps⟩ := x
        simp only [Option.map_some, handlerArgs_hom h, mkResponse_map h, viaLink_map]
        cases viaLink sk stream false (mkResponse sk σ₁ c (hdl fn (handlerArgs σ₁ ps paramTys))) with
        | none => rfl
        | some rs =>
          simp only [Option.map_some, callerResult_hom h, strField_map]

/-- On a tree whose write adapters set exactly one member and whose tags are the documented ones, a
    non-null frame comes out of the stream link as it went in. -/
theorem viaLink_stream {P : Type} (sk : Skeleton) (he : EnvFacts sk) (ht : DocTags sk) (isRequest : Bool)
    (t : Tree P) (hn : t.isNull = false) : viaLink sk true isRequest t = some t := by
  simp [viaLink, parseEnvelope_mkEnvelope sk he ht isRequest t hn]

/-- …so one call has the same observables over a stream link as over a message link. -/
theorem callObservables_stream_eq_message {V P : Type} (sk : Skeleton) (he : EnvFacts sk) (ht : DocTags sk)
    (σ : Codec V P) (callId name : String) (args : List (Arg V)) (paramTys : List Nat)
    (hdl : String → List (Option V) → Ret V) (prev : Option String) (numOut : Nat) (outIsErr : Bool) (ty : Nat) :
    callObservables sk σ true callId name args paramTys hdl prev numOut outIsErr ty =
      callObservables sk σ false callId name args paramTys hdl prev numOut outIsErr ty := by
  have hl : ∀ (b : Bool) (t : Tree P), t.isNull = false → viaLink sk true b t = viaLink sk false b t :=
    fun b t hn => by rw [viaLink_stream sk he ht b t hn]; rfl
  unfold callObservables
  cases hb : stubBuild sk σ callId name args with
  | panic why => rfl
  | frame rq =>
    have hrq : rq.isNull = false := stubBuild_frame hb ▸ rfl
    simp only [hl true rq hrq]
    cases (viaLink sk false true rq).bind (goDecodeRequest sk) with
    | none => rfl
    | some x =>
      obtain ⟨c, fn, ps⟩ := x
      simp only [hl false (mkResponse sk σ c _) rfl]

/-! ### a concrete pair of serializers related by a translation

  Application values: numbers and strings.  `textCodec` has payload type `String` ("JSON with raw
  payloads": a payload is a piece of text), `bytesCodec` has payload type `List Nat` ("byte-string
  payloads": a payload is a sequence of code units; one number per code point keeps the example
  short).  The translation is `bytesOf`.  The two encoders are written independently; the decoders
  share the scanner `decodeCP`, which reads code points. -/

inductive Val where
  | num (n : Nat)
  | str (s : String)
  deriving DecidableEq, Repr

def bytesOf (s : String) : List Nat := s.toList.map Char.toNat

def textOf (q : List Nat) : String := String.ofList (q.map Char.ofNat)

theorem textOf_bytesOf (s : String) : textOf (bytesOf s) = s := by
  simp [textOf, bytesOf, List.map_map, Function.comp_def, Char.ofNat_toNat, String.ofList_toList]

/-- decimal digits, most significant first → the number (`none`: empty or not all digits) -/
def digitsVal : List Nat → Option Nat → Option Nat
  | [], acc => acc
  | d :: r, acc => if 48 ≤ d ∧ d ≤ 57 then digitsVal r (some (acc.getD 0 * 10 + (d - 48))) else none

/-- `unmarshal` on code points: type 0 = number (decimal digits), type 1 = string (in quotes) -/
def decodeCP (q : List Nat) (τ : Nat) : Option Val :=
  match τ with
  | 0 => (digitsVal q none).map .num
  | 1 =>
    match q with
    | 34 :: r => if r.getLast? = some 34 then some (.str (textOf r.dropLast)) else none
    | _ => none
  | _ => none

def textCodec : Codec Val String where
  enc := fun
    | .num n => String.ofList (Nat.toDigits 10 n)
    | .str s => String.ofList ('"' :: (s.toList ++ ['"']))
  encNil := "null"
  dec := fun p τ => decodeCP (bytesOf p) τ
  ofStr := .str
  strTy := 1
  ctxVal := .str "<context>"

def bytesCodec : Codec Val (List Nat) where
  enc := fun
    | .num n => (Nat.toDigits 10 n).map Char.toNat
    | .str s => 34 :: (s.toList.map Char.toNat ++ [34])
  encNil := [110, 117, 108, 108]
  dec := decodeCP
  ofStr := .str
  strTy := 1
  ctxVal := .str "<context>"

theorem text_bytes_hom : CodecHom bytesOf textCodec bytesCodec where
  enc := fun v => by cases v <;> simp [textCodec, bytesCodec, bytesOf, String.toList_ofList]
  encNil := by decide
  dec := fun _ _ => rfl
  ofStr := fun _ => rfl
  strTy := rfl
  ctxVal := rfl

/-- the generic construction gives another bytes codec for free -/
theorem text_pushforward_hom : CodecHom bytesOf textCodec (textCodec.pushforward bytesOf textOf) :=
  CodecHom.pushforward textCodec bytesOf textOf textOf_bytesOf

end Panrpc.Wire
