/-
  Model/Broadcaster.lean — M1: labelled transition system of utils/broadcaster.go.

  Any number of client threads (publishers `p`, receivers `t`), any number of keys and
  caller contexts.  One constructor of `Act` per atomic step (DESIGN.md A.1); every
  nondeterministic choice is an argument of the action, so `step` is a function.
  The effects that differ between source trees are selected by `Skeleton` facts
  (`sk.bc…`), which are regenerated from /repo on every run.

  Source map (utils/broadcaster.go):
    receive      Receive(): closed check, (only if `sk.bcReceiveErrorsOnlyClosed = false`: refusal of a
                 caller context that is done already), lookup-or-create entry, all under the lock
    rcvCall      calling the returned function: it enters its `select`
    rcvValue     rendezvous  `case v := <-c.channel`  ×  `case c.channel <- v`
    rcvChanClosed `case _, ok := <-c.channel; !ok`     (value channel was closed)
    rcvDone      `case <-c.done`                       (separate closed signal, if any)
    rcvCtx       `case <-ctx.Done()`
    pubStart     a goroutine calls Publish(k, v)
    pubLookup    Publish(): closed check + lookup under the lock
    pubCtx       `case <-c.ctx.Done()` in Publish's select
    pubSendClosed `case c.channel <- v` chosen on a closed channel  → runtime panic
    free / close Free(k) / Close(), one critical section each
    ctxCancel    the application cancels a caller context
    ctxPropagate package context propagates a parent's cancellation to the entry ctx
-/
import Panrpc.Go.Prim
import Panrpc.Skeleton

namespace Panrpc.Bc

structure Entry where
  key        : Nat
  parent     : Nat    -- caller context the entry context derives from
  chanClosed : Bool   -- value channel closed
  doneClosed : Bool   -- separate "freed/closed" signal closed (if the source has one)
  ctxDone    : Bool   -- entry context cancelled
  deriving DecidableEq, Repr, Inhabited

inductive Pub where
  | absent
  | start   (key val : Nat)
  | holding (key val gen : Nat)       -- past the unlock, before/inside the select
  | done    (delivered : Bool)
  deriving DecidableEq, Repr, Inhabited

inductive Rcv where
  | absent
  | refused                            -- Receive returned ErrClosed
  | refusedCtx                         -- Receive returned the caller context's error (only if the source refuses a done context)
  | have      (key gen ctx : Nat)      -- holds the receive function, not inside it
  | waiting   (key gen ctx : Nat)      -- inside the function's select
  | gotVal    (key gen ctx val : Nat)
  | gotCtx    (key gen ctx : Nat)
  | gotClosed (key gen ctx : Nat)
  deriving DecidableEq, Repr, Inhabited

structure Delivery where
  pub  : Nat
  rcv  : Nat
  pkey : Nat   -- key the value was published on
  rkey : Nat   -- key the receiver asked for
  val  : Nat
  deriving DecidableEq, Repr, Inhabited

structure State where
  table      : Nat → Option Nat      -- key → generation of the live entry
  entries    : Nat → Option Entry    -- generation → entry (entries are never forgotten: ghost)
  nextGen    : Nat
  closed     : Bool
  lockHolder : Option Nat            -- a publisher that keeps the mutex across its select (only if the source does)
  ctxs       : Nat → Bool            -- caller contexts: done?
  pubs       : Nat → Pub
  rcvs       : Nat → Rcv
  crashed    : Bool
  deliveries : List Delivery         -- ghost
  deriving Inhabited

def init : State :=
  { table := fun _ => none, entries := fun _ => none, nextGen := 0, closed := false,
    lockHolder := none, ctxs := fun _ => false, pubs := fun _ => .absent,
    rcvs := fun _ => .absent, crashed := false, deliveries := [] }

inductive Act where
  | receive (t k x : Nat)
  | rcvCall (t : Nat)
  | rcvValue (t p : Nat)
  | rcvChanClosed (t : Nat)
  | rcvDone (t : Nat)
  | rcvCtx (t : Nat)
  | pubStart (p k v : Nat)
  | pubLookup (p : Nat)
  | pubCtx (p : Nat)
  | pubSendClosed (p : Nat)
  | free (k : Nat)
  | close
  | ctxCancel (x : Nat)
  | ctxPropagate (g : Nat)
  deriving DecidableEq, Repr, Inhabited

/-- what `Free` does to the entry it removes -/
def freeEntry (sk : Skeleton) (e : Entry) : Entry :=
  { e with ctxDone := e.ctxDone || sk.bcFreeCancels,
           chanClosed := e.chanClosed || sk.bcFreeClosesChan,
           doneClosed := e.doneClosed || sk.bcFreeClosesDone }

/-- what `Close` does to every live entry -/
def closeEntry (sk : Skeleton) (e : Entry) : Entry :=
  { e with ctxDone := e.ctxDone || sk.bcCloseCancelsAll,
           chanClosed := e.chanClosed || sk.bcCloseClosesChans,
           doneClosed := e.doneClosed || sk.bcCloseClosesDone }

def rcvKey : Rcv → Option (Nat × Nat × Nat)
  | .waiting k g x => some (k, g, x)
  | _ => none

def step (sk : Skeleton) (s : State) : Act → Option State
  | .receive t k x =>
    if s.crashed = false ∧ s.lockHolder = none ∧ s.rcvs t = .absent then
      if s.closed = true ∧ sk.bcReceiveRefusesWhenClosed = true then
        some { s with rcvs := upd s.rcvs t .refused }
      else if s.ctxs x = true ∧ sk.bcReceiveErrorsOnlyClosed = false then
        -- `if err := ctx.Err(); err != nil { return nil, err }`: a caller context that is done already
        -- is refused with ITS error; no entry is created
        some { s with rcvs := upd s.rcvs t .refusedCtx }
      else match s.table k with
        | some g => some { s with rcvs := upd s.rcvs t (.have k g x) }
        | none =>
          let g := s.nextGen
          some { s with table := upd s.table k (some g),
                        entries := upd s.entries g
                          (some { key := k, parent := x, chanClosed := false, doneClosed := false,
                                  ctxDone := s.ctxs x }),
                        nextGen := g + 1,
                        rcvs := upd s.rcvs t (.have k g x) }
    else none
  | .rcvCall t =>
    if s.crashed = false then
      match s.rcvs t with
      | .have k g x | .gotVal k g x _ | .gotCtx k g x | .gotClosed k g x =>
        some { s with rcvs := upd s.rcvs t (.waiting k g x) }
      | _ => none
    else none
  | .rcvValue t p =>
    if s.crashed = false then
      match s.rcvs t, s.pubs p with
      | .waiting k g x, .holding pk v pg =>
        match s.entries g with
        | some e =>
          if pg = g ∧ e.chanClosed = false ∧ sk.bcRecvSelectsChan = true ∧ sk.bcPublishSelectsSend = true then
            some { s with rcvs := upd s.rcvs t (.gotVal k g x v),
                          pubs := upd s.pubs p (.done true),
                          lockHolder := if s.lockHolder = some p then none else s.lockHolder,
                          deliveries := { pub := p, rcv := t, pkey := pk, rkey := k, val := v } :: s.deliveries }
          else none
        | none => none
      | _, _ => none
    else none
  | .rcvChanClosed t =>
    if s.crashed = false then
      match s.rcvs t with
      | .waiting k g x =>
        match s.entries g with
        | some e => if e.chanClosed = true ∧ sk.bcRecvSelectsChan = true then
            some { s with rcvs := upd s.rcvs t (.gotClosed k g x) } else none
        | none => none
      | _ => none
    else none
  | .rcvDone t =>
    if s.crashed = false then
      match s.rcvs t with
      | .waiting k g x =>
        match s.entries g with
        | some e => if e.doneClosed = true ∧ sk.bcRecvSelectsDone = true then
            some { s with rcvs := upd s.rcvs t (.gotClosed k g x) } else none
        | none => none
      | _ => none
    else none
  | .rcvCtx t =>
    if s.crashed = false then
      match s.rcvs t with
      | .waiting k g x =>
        if s.ctxs x = true ∧ sk.bcRecvSelectsCallerCtx = true then
          some { s with rcvs := upd s.rcvs t (.gotCtx k g x) } else none
      | _ => none
    else none
  | .pubStart p k v =>
    if s.crashed = false ∧ s.pubs p = .absent then
      some { s with pubs := upd s.pubs p (.start k v) }
    else none
  | .pubLookup p =>
    if s.crashed = false ∧ s.lockHolder = none then
      match s.pubs p with
      | .start k v =>
        if s.closed = true ∧ sk.bcPublishChecksClosed = true then
          some { s with pubs := upd s.pubs p (.done false) }
        else match s.table k with
          | none => some { s with pubs := upd s.pubs p (.done false) }
          | some g => some { s with pubs := upd s.pubs p (.holding k v g),
                                    lockHolder := if sk.bcPublishSelectOutsideLock = true then none else some p }
      | _ => none
    else none
  | .pubCtx p =>
    if s.crashed = false then
      match s.pubs p with
      | .holding _ _ g =>
        match s.entries g with
        | some e => if e.ctxDone = true ∧ sk.bcPublishSelectsEntryCtx = true then
            some { s with pubs := upd s.pubs p (.done false),
                          lockHolder := if s.lockHolder = some p then none else s.lockHolder } else none
        | none => none
      | _ => none
    else none
  | .pubSendClosed p =>
    if s.crashed = false then
      match s.pubs p with
      | .holding _ _ g =>
        match s.entries g with
        | some e => if e.chanClosed = true ∧ sk.bcPublishSelectsSend = true then
            some { s with crashed := true } else none   -- panic: send on closed channel
        | none => none
      | _ => none
    else none
  | .free k =>
    if s.crashed = false ∧ s.lockHolder = none then
      match s.table k with
      | none => some s
      | some g =>
        match s.entries g with
        | none => some s
        | some e =>
          if (e.chanClosed = true ∧ sk.bcFreeClosesChan = true) ∨ (e.doneClosed = true ∧ sk.bcFreeClosesDone = true) then
            some { s with crashed := true }              -- panic: close of closed channel
          else
            some { s with entries := upd s.entries g (some (freeEntry sk e)),
                          table := if sk.bcFreeDeletes = true then upd s.table k none else s.table }
    else none
  | .close =>
    if s.crashed = false ∧ s.lockHolder = none then
      some { s with entries := fun g => match s.entries g with
                      | some e => if s.table e.key = some g then some (closeEntry sk e) else some e
                      | none => none,
                    table := if sk.bcCloseClearsTable = true then (fun _ => none) else s.table,
                    closed := s.closed || sk.bcCloseSetsClosed }
    else none
  | .ctxCancel x =>
    if s.crashed = false then some { s with ctxs := upd s.ctxs x true } else none
  | .ctxPropagate g =>
    if s.crashed = false then
      match s.entries g with
      | some e => if s.ctxs e.parent = true ∧ sk.bcReceiveChildCtx = true then
          some { s with entries := upd s.entries g (some { e with ctxDone := true }) } else none
      | none => none
    else none

/-- The source facts that justify treating `Receive`, `Free`, `Close` and `Publish`'s lookup as ONE
    atomic step each: a single lock…unlock region that contains the closed check, the map access
    and every effect on the entry.  (If an operation were split into two regions, another thread's
    step could fall between them and this model would not describe the code.) -/
structure Atomic (sk : Skeleton) : Prop where
  receive  : sk.bcReceiveOneSection = true
  free     : sk.bcFreeOneSection = true
  close    : sk.bcCloseOneSection = true
  publish  : sk.bcPublishOneLookupSection = true
  lookup   : sk.bcPublishLooksUpUnderLock = true
  freeL    : sk.bcFreeUnderLock = true
  closeL   : sk.bcCloseUnderLock = true
  reuse    : sk.bcReceiveReusesEntry = true

inductive Reach (sk : Skeleton) : State → Prop where
  | init : Reach sk init
  | step {s s' : State} (a : Act) : Reach sk s → step sk s a = some s' → Reach sk s'

def run (sk : Skeleton) (s : State) (acts : List Act) : Option State := runFrom (step sk) s acts

theorem reach_of_run (sk : Skeleton) {s s' : State} (acts : List Act)
    (h : Reach sk s) (hr : run sk s acts = some s') : Reach sk s' :=
  runFrom_invariant (fun _ a _ h hs => Reach.step a h hs) acts h hr

end Panrpc.Bc
