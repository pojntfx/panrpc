/-
  Model/Convert.lean — P4: generic value conversion (`convertValue`, rpc/registry.go) and the
  closure wrapper returned by `createClosure` (rpc/manager.go), plus the result half of the
  closure proxy built in `findLocalFunctionToCallRecursively`.

  How values travel (C11).  The callee's proxy puts its arguments into `[]interface{}`, the
  serializer encodes the list, and on the closure owner's side
  `CallClosure(ctx, closureID, args []interface{})` receives the *generically decoded* list.
  The wrapper from `createClosure` converts each element to the declared parameter type with
  `convertValue(reflect.ValueOf(arg), functionType.In(i))` and then calls the function once.
  The function's result travels back the same way and is converted by the proxy with
  `convertValue(rcpRv[0].Elem(), <declared result type>)` — only when that element is valid.

  Universe and what is abstracted
  * `Ty` — declared (static) Go types by *class*.  `int` stands for int, int8 … int64, `uint`
    for uint, uint8 … uint64, uintptr, `float` for float32/float64.  Bit widths are not
    modelled: every conversion is taken inside the range where Go's `Convert` is exact
    (no wrap-around, no truncation of fractions, integers within ±2^53 when they pass through
    a float64).  `anyIface` is `interface{}`.  `other` is any type outside these classes
    (struct, map, pointer, chan, func, array, complex, non-empty interface) that is *not
    identical* to the source value's type.
    NOT in the universe: `[]byte`/`[]rune` (and named variants) — Go converts `string` ⇄ those
    directly; `slice uint` / `slice int` stand for the other element widths.
  * `GVal` — a `reflect.Value` as `convertValue` sees it.  `invalid` is the zero Value
    (`reflect.ValueOf(nil)`, `Elem()` of a nil interface).  `float x` is a float64 holding
    the integral value `x` (fractions are not represented: no modelled statement looks at
    them except `Convert`, which is outside the exact range then).  `slice true xs` is a
    `[]interface{}` whose elements (as returned by `Index(i)`) are interface-kinded, i.e.
    `iface _`; `slice false xs` is a slice with a concrete element type.  A valid nil slice
    and an empty slice are both `slice _ []` (length is all `convertValue` reads).
    `other` is a value of any other kind (map, struct, pointer …).
-/
import Panrpc.Skeleton

namespace Panrpc.Cv
open Panrpc

/-- Declared Go types, by class. -/
inductive Ty where
  | bool
  | int
  | uint
  | float
  | string
  | slice (elem : Ty)
  | anyIface
  | other
  deriving DecidableEq, Repr, Inhabited

/-- A `reflect.Value` as seen by `convertValue`. -/
inductive GVal where
  | invalid
  | bool (b : Bool)
  | int (i : Int)
  | uint (n : Nat)
  | float (x : Int)
  | string (s : String)
  | slice (elemsAreIface : Bool) (xs : List GVal)
  | iface (inner : GVal)
  | other
  deriving Repr, Inhabited

/-! Decidable equality for the nested type (the deriving handler does not cover nested
    inductives): a structural boolean test and its soundness / completeness. -/
mutual
def GVal.beq : GVal → GVal → Bool
  | .invalid, .invalid => true
  | .bool a, .bool b => a == b
  | .int a, .int b => a == b
  | .uint a, .uint b => a == b
  | .float a, .float b => a == b
  | .string a, .string b => a == b
  | .slice f xs, .slice g ys => f == g && GVal.beqList xs ys
  | .iface a, .iface b => GVal.beq a b
  | .other, .other => true
  | _, _ => false
def GVal.beqList : List GVal → List GVal → Bool
  | [], [] => true
  | x :: xs, y :: ys => GVal.beq x y && GVal.beqList xs ys
  | _, _ => false
end

mutual
theorem GVal.eq_of_beq : ∀ (a b : GVal), GVal.beq a b = true → a = b
  | .invalid, b, h | .bool _, b, h | .int _, b, h | .uint _, b, h | .float _, b, h | .string _, b, h
  | .other, b, h => by cases b <;> simp_all [GVal.beq]
  | .iface a, b, h => by
    cases b <;> simp only [GVal.beq] at h <;> try contradiction
    rw [GVal.eq_of_beq a _ h]
  | .slice f xs, b, h => by
    cases b <;> simp only [GVal.beq] at h <;> try contradiction
    simp only [Bool.and_eq_true, beq_iff_eq] at h
    rw [h.1, GVal.eq_of_beqList xs _ h.2]
theorem GVal.eq_of_beqList : ∀ (a b : List GVal), GVal.beqList a b = true → a = b
  | [], b, h => by cases b <;> simp_all [GVal.beqList]
  | x :: xs, b, h => by
    cases b <;> simp only [GVal.beqList] at h <;> try contradiction
    simp only [Bool.and_eq_true] at h
    rw [GVal.eq_of_beq x _ h.1, GVal.eq_of_beqList xs _ h.2]
end

mutual
theorem GVal.beq_refl : ∀ (a : GVal), GVal.beq a a = true
  | .invalid | .bool _ | .int _ | .uint _ | .float _ | .string _ | .other => by simp [GVal.beq]
  | .iface a => by simp only [GVal.beq]; exact GVal.beq_refl a
  | .slice f xs => by simp only [GVal.beq, beq_self_eq_true, Bool.true_and]; exact GVal.beqList_refl xs
theorem GVal.beqList_refl : ∀ (a : List GVal), GVal.beqList a a = true
  | [] => by simp [GVal.beqList]
  | x :: xs => by simp only [GVal.beqList, Bool.and_eq_true]; exact ⟨GVal.beq_refl x, GVal.beqList_refl xs⟩
end

instance : DecidableEq GVal := fun a b =>
  if h : GVal.beq a b = true then isTrue (GVal.eq_of_beq a b h)
  else isFalse (fun e => h (e ▸ GVal.beq_refl a))

mutual
/-- No zero Value / nil interface anywhere inside the value. -/
def GVal.noInvalid : GVal → Bool
  | .invalid => false
  | .iface v => v.noInvalid
  | .slice _ xs => GVal.noInvalidAll xs
  | _ => true
def GVal.noInvalidAll : List GVal → Bool
  | [] => true
  | x :: xs => x.noInvalid && GVal.noInvalidAll xs
end

/-- `reflect.Kind` (plus the one distinction on slices that `ConvertibleTo` needs). -/
inductive Kind where
  | invalid | bool | int | uint | float | string | sliceIface | sliceTyped | iface | other
  deriving DecidableEq, Repr, Inhabited

def GVal.kind : GVal → Kind
  | .invalid => .invalid
  | .bool _ => .bool
  | .int _ => .int
  | .uint _ => .uint
  | .float _ => .float
  | .string _ => .string
  | .slice true _ => .sliceIface
  | .slice false _ => .sliceTyped
  | .iface _ => .iface
  | .other => .other

def GVal.isInvalid : GVal → Bool
  | .invalid => true
  | _ => false

/-- `dstType.Kind() == reflect.Slice`, with `dstType.Elem()`. -/
def Ty.elem? : Ty → Option Ty
  | .slice e => some e
  | _ => none

def Ty.isAnyIface : Ty → Bool
  | .anyIface => true
  | _ => false

/-- `srcVal.Type().ConvertibleTo(dstType)` on the classes (Go spec, "Conversions"):
    everything is assignable to `interface{}`; numeric ⇄ numeric all ways; identical types;
    integer → string (yields the rune's UTF-8 text); `[]interface{}` → `[]interface{}`.
    A typed slice and a slice type are taken to have different element types (with identical
    ones Go converts directly and the value is the same as converting element by element);
    `other` destinations are by definition not identical to the source type. -/
def convertible : Kind → Ty → Bool
  | .invalid, _ => false            -- never asked: `.Type()` panics first
  | _, .anyIface => true
  | .bool, .bool => true
  | .int, .int => true
  | .int, .uint => true
  | .int, .float => true
  | .int, .string => true
  | .uint, .int => true
  | .uint, .uint => true
  | .uint, .float => true
  | .uint, .string => true
  | .float, .int => true
  | .float, .uint => true
  | .float, .float => true
  | .string, .string => true
  | .sliceIface, .slice .anyIface => true
  | _, _ => false

/-- `srcVal.Convert(dstType)` where `convertible` holds.  Integer → string produces a rune
    string, which is outside the supported domain: marked `other`. -/
def convertDirect : GVal → Ty → GVal
  | .iface w, .anyIface => .iface w       -- (only without the unwrap loop) interface{} → interface{}
  | v, .anyIface => .iface v
  | .int i, .uint => .uint i.toNat
  | .int i, .float => .float i
  | .int _, .string => .other
  | .uint n, .int => .int n
  | .uint n, .float => .float n
  | .uint _, .string => .other
  | .float x, .int => .int x
  | .float x, .uint => .uint x.toNat
  | v, _ => v

/-- `reflect.Zero(dstType)`. -/
def zeroOf : Ty → GVal
  | .bool => .bool false
  | .int => .int 0
  | .uint => .uint 0
  | .float => .float 0
  | .string => .string ""
  | .slice e => .slice e.isAnyIface []
  | .anyIface => .iface .invalid
  | .other => .other

inductive Outcome where
  | ok (v : GVal)
  | err                -- ErrReturnValueTooComplex
  | panic              -- a reflect panic
  deriving DecidableEq, Repr, Inhabited

inductive ElemsOutcome where
  | ok (vs : List GVal)
  | err
  | panic
  deriving DecidableEq, Repr, Inhabited

/-- Statements 2 and 3 of `convertValue`, on the (already unwrapped) source:
      `if !srcVal.IsValid() { return reflect.Zero(dstType), nil }`       (repaired tree only)
      `if srcVal.Type().ConvertibleTo(dstType) { return srcVal.Convert(dstType), nil }`
    `none` = fell through.  `.Type()` on the zero Value panics. -/
def front (sk : Skeleton) (v : GVal) (τ : Ty) : Option Outcome :=
  if sk.cvHandlesInvalid && v.isInvalid then some (.ok (zeroOf τ))
  else if sk.cvUsesConvertibleTo then
    if v.isInvalid then some .panic
    else if convertible v.kind τ then some (.ok (convertDirect v τ))
    else none
  else none

/-- The last statement: `return reflect.Value{}, ErrReturnValueTooComplex`.  Without it the
    model cannot know what the function answers; it says `ok other`, and every theorem that
    depends on it assumes `cvFallbackError`. -/
def fallback (sk : Skeleton) : Outcome :=
  if sk.cvFallbackError then .err else .ok .other

mutual
/-- `convertValue(srcVal, dstType)`, statement by statement. -/
def convertValue (sk : Skeleton) : GVal → Ty → Outcome
  | .iface inner, τ =>
    -- for srcVal.Kind() == reflect.Interface { srcVal = srcVal.Elem() }
    if sk.cvUnwrapsInterfaces then convertValue sk inner τ
    else (front sk (.iface inner) τ).getD (fallback sk)
  | .slice f xs, τ =>
    match front sk (.slice f xs) τ with
    | some o => o
    | none =>
      -- if srcVal.Kind() == reflect.Slice && dstType.Kind() == reflect.Slice { … }
      if sk.cvSliceElementwise then
        match τ.elem? with
        | some e =>
          match convertElems sk xs e with
          | .ok vs => .ok (.slice e.isAnyIface vs)     -- reflect.MakeSlice(dstType, …)
          | .err => .err
          | .panic => .panic
        | none => fallback sk
      else fallback sk
  | .invalid, τ => (front sk .invalid τ).getD (fallback sk)
  | .bool b, τ => (front sk (.bool b) τ).getD (fallback sk)
  | .int i, τ => (front sk (.int i) τ).getD (fallback sk)
  | .uint n, τ => (front sk (.uint n) τ).getD (fallback sk)
  | .float x, τ => (front sk (.float x) τ).getD (fallback sk)
  | .string s, τ => (front sk (.string s) τ).getD (fallback sk)
  | .other, τ => (front sk .other τ).getD (fallback sk)
/-- The element loop: in order, stops at the first error (or panic). -/
def convertElems (sk : Skeleton) : List GVal → Ty → ElemsOutcome
  | [], _ => .ok []
  | x :: xs, e =>
    match convertValue sk x e with
    | .ok v =>
      match convertElems sk xs e with
      | .ok vs => .ok (v :: vs)
      | o => o
    | .err => .err
    | .panic => .panic
end

/-! ### the wrapper returned by `createClosure`, as called by `CallClosure`

`CallClosure` calls `closure(ctx :: args…)`.  `paramTys` are the declared parameter types
*after* the leading `context.Context` (so `functionType.NumIn() = paramTys.length + 1`);
`args` is the generically decoded list that `CallClosure` received.  Position 0 is the
non-nil context the request loop built; its type implements `context.Context`, so its
conversion is `Convert` to an interface type and succeeds.  (Precondition from the README:
the function's first parameter is a `context.Context` and it is not variadic;
`createClosure` does not check either.) -/

inductive WErr where
  | argsCount      -- ErrInvalidArgsCount
  | arg            -- ErrInvalidArg
  | call           -- the error `utils.Call` made out of a recovered panic
  deriving DecidableEq, Repr, Inhabited

inductive ArgsOutcome where
  | ok (vs : List GVal)
  | err
  | panic
  deriving DecidableEq, Repr, Inhabited

inductive WrapperOutcome where
  | ran (converted : List GVal)   -- `utils.Call(reflect.ValueOf(fn), in)` reached, once, with `in`
  | errResult (e : WErr)          -- `return nil, <error>` before the function was called
  | panicOut                      -- a panic leaves the wrapper (recovered further out by `utils.Call`
                                  -- around `CallClosure`: fatal link error on the closure owner's side)
  deriving DecidableEq, Repr, Inhabited

/-- The `for i, arg := range args` loop.  `functionType.In(i)` past the last parameter panics
    (reachable only without the count check). -/
def convertArgs (sk : Skeleton) : List Ty → List GVal → ArgsOutcome
  | _, [] => .ok []
  | [], _ :: _ => .panic
  | τ :: ts, a :: as =>
    match convertValue sk a τ with
    | .ok v =>
      match convertArgs sk ts as with
      | .ok vs => .ok (v :: vs)
      | o => o
    | .err => .err
    | .panic => .panic

def wrapper (sk : Skeleton) (paramTys : List Ty) (args : List GVal) : WrapperOutcome :=
  -- if len(args) != functionType.NumIn() { return nil, ErrInvalidArgsCount }
  if sk.clArgCountChecked && (args.length + 1 != paramTys.length + 1) then .errResult .argsCount
  else
    match convertArgs sk paramTys args with
    | .panic => .panicOut
    | .err => .errResult .arg
    | .ok vs =>
      if vs.length == paramTys.length then .ran vs
      else
        -- too few arguments: `reflect.Value.Call` panics before the function is entered
        if sk.clCallViaUtilsCall && sk.ucRecovers then .errResult .call else .panicOut

/-- What the function did once it was called. -/
inductive FnOut where
  | ret1 (err : Option String)                 -- `func(ctx, …) error`
  | ret2 (v : GVal) (err : Option String)      -- `func(ctx, …) (T, error)`
  | panicked
  deriving DecidableEq, Repr, Inhabited

/-- The wrapper's own `(interface{}, error)` result. -/
structure WRet where
  value : Option GVal          -- `none` = nil interface
  err   : Option String
  recoveredPanic : Bool := false
  deriving DecidableEq, Repr, Inhabited

/-- The tail of the wrapper after `utils.Call`; `none` = the panic propagates. -/
def wrapperReturn (sk : Skeleton) : FnOut → Option WRet
  | .ret1 e => some { value := none, err := e }
  | .ret2 v e => some { value := some v, err := e }        -- out[0].Interface() in both branches
  | .panicked =>
    if sk.clCallViaUtilsCall && sk.ucRecovers then
      some { value := none, err := none, recoveredPanic := true }
    else none

/-! ### the proxy's result half

    valueReturnValue := reflect.New(functionType.Out(0))
    if el := rcpRv[0].Elem(); el.IsValid() {
        convertedValueReturnType, err := convertValue(el, valueReturnValue.Type().Elem())
        if err != nil { panic(err) }
        valueReturnValue.Elem().Set(convertedValueReturnType)
    }

`guarded` says whether the `el.IsValid()` guard is there (it is on the pinned tree; the fact is
not in `Skeleton` yet).  `el` is the generically decoded result.  Outcome `err` is the
`panic(err)` that the proxy's own deferred `recover` turns into `setErr(err)`. -/
def proxyResult (sk : Skeleton) (guarded : Bool) (ρ : Ty) (el : GVal) : Outcome :=
  if guarded && el.isInvalid then .ok (zeroOf ρ) else convertValue sk el ρ

/-! ### typed values and their generic image -/

/-- Supported typed values (C11: numbers, booleans, strings and slices of those — nesting of
    slices is allowed here).  A slice carries its declared element type and whether it is nil. -/
inductive TVal where
  | bool (b : Bool)
  | int (i : Int)
  | uint (n : Nat)
  | float (x : Int)
  | string (s : String)
  | slice (elem : Ty) (isNil : Bool) (xs : List TVal)
  deriving Repr, Inhabited

def TVal.ty : TVal → Ty
  | .bool _ => .bool
  | .int _ => .int
  | .uint _ => .uint
  | .float _ => .float
  | .string _ => .string
  | .slice e _ _ => .slice e

/-- Supported declared types. -/
def Ty.supported : Ty → Bool
  | .bool | .int | .uint | .float | .string => true
  | .slice e => e.supported
  | .anyIface | .other => false

mutual
/-- Well-typed: elements have the declared element type, a nil slice has no elements. -/
def TVal.wt : TVal → Bool
  | .slice e isNil xs => e.supported && (!isNil || xs.isEmpty) && TVal.wtAll e xs
  | _ => true
def TVal.wtAll (e : Ty) : List TVal → Bool
  | [] => true
  | x :: xs => x.wt && decide (x.ty = e) && TVal.wtAll e xs
end

mutual
/-- No nil slice anywhere inside. -/
def TVal.nilFree : TVal → Bool
  | .slice _ isNil xs => !isNil && TVal.nilFreeAll xs
  | _ => true
def TVal.nilFreeAll : List TVal → Bool
  | [] => true
  | x :: xs => x.nilFree && TVal.nilFreeAll xs
end

/-- The value may itself be a nil slice, but contains none. -/
def TVal.innerNilFree : TVal → Bool
  | .slice _ _ xs => TVal.nilFreeAll xs
  | _ => true

mutual
/-- The typed value as a `reflect.Value` of its declared type (what the function receives). -/
def TVal.embed : TVal → GVal
  | .bool b => .bool b
  | .int i => .int i
  | .uint n => .uint n
  | .float x => .float x
  | .string s => .string s
  | .slice _ _ xs => .slice false (TVal.embedAll xs)
def TVal.embedAll : List TVal → List GVal
  | [] => []
  | x :: xs => x.embed :: TVal.embedAll xs
end

/-- Generic decoders. -/
inductive Codec where
  | json   -- encoding/json into interface{}: every number is a float64
  | cbor   -- fxamacker/cbor into interface{}: non-negative integers uint64, negative int64, floats float64
  deriving DecidableEq, Repr, Inhabited

def genericInt : Codec → Int → GVal
  | .json, i => .float i
  | .cbor, i => if i < 0 then .int i else .uint i.toNat

def genericUint : Codec → Nat → GVal
  | .json, n => .float n
  | .cbor, n => .uint n

def genericFloat : Codec → Int → GVal
  | _, x => .float x

mutual
/-- `genericDec (enc v)`: what the generic decoder produces for the encoding of a typed value.
    A nil slice encodes as null and decodes as `nil` (→ the zero Value); a slice decodes as
    `[]interface{}`, its elements interface-wrapped. -/
def genericOf (c : Codec) : TVal → GVal
  | .bool b => .bool b
  | .int i => genericInt c i
  | .uint n => genericUint c n
  | .float x => genericFloat c x
  | .string s => .string s
  | .slice _ true _ => .invalid
  | .slice _ false xs => .slice true (genericOfAll c xs)
def genericOfAll (c : Codec) : List TVal → List GVal
  | [] => []
  | x :: xs => .iface (genericOf c x) :: genericOfAll c xs
end

end Panrpc.Cv
