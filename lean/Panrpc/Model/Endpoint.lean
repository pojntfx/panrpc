/-
  Model/Endpoint.lean — M2: the caller side of one endpoint of one link
  (rpc/registry.go: the stub built by `makeRPC`, `setErr`, the tail of `LinkMessage`, the
  response loop's `go responseResolver.Publish(…)`; rpc/manager.go: `registerClosure`,
  `CallClosure`).  The pending-call table of the link is the broadcaster: M1's state and
  `Bc.step` are embedded unchanged (`State.bc`); every M2 step either leaves `bc` alone or is
  exactly one `Bc.step` (projection lemma in Lemmas/Endpoint.lean), so M1's invariants are reused.

  Thread ids are one namespace of `Nat`s: a thread is a call thread (`calls c`, whose call id,
  broadcaster key, M1 receiver thread and waiter index are all `c` — fresh ids,
  `uuid.NewString()`), or another thread of the link that may report a fatal error
  (`setters t`: loops, handlers, the ctx watcher).  A call thread that recovers a panic enters
  `setErr` as setter `c`.

  Error values are `Nat` codes.  The five values panrpc produces itself are fixed; every value
  injected from outside (transport, codec, handler, signature errors) is `eExt n`, distinct from
  those five:
      eClosed   utils.ErrClosed               (only ever produced by the broadcaster)
      eLinkCtx  linkCtx.Err()
      eMarshal  marshal failure of an argument / of the request
      eDecode   unmarshal failure of a response value
      eCallCtx  the call's own ctx.Err(), as a PANIC value of the stub: only if `Receive` refuses a
                context that is done already (`sk.bcReceiveErrorsOnlyClosed = false`); the regular
                way a call learns of its context's end is `RespErr.ctxErr` through the waiter

  Source map (registry.go, stub literal passed to reflect.MakeFunc):
    callStart        callID := uuid.NewString(); the arg loop: registerClosure + defer freeClosure
                     for every func argument (`sk.stubFuncArgsRegistered`), marshal
    callMarshalFail  `panic(err)` after a marshal failure of a later argument / cmd.Marshal
    callReceive      responseResolver.Receive(callID, ctx); every error is `panic(err)`:
                     refused → panic(ErrClosed); refusedCtx → panic(ctx.Err())
    callSpawn        `go func() { defer Free(callID); r, err := rr(); …; res <- *r }()`
    callWrite        writeRequest(b) through the ctx-checking wrapper; callWriteFail: panic(err)
    waiterRecvCall   the waiter calls rr(): enters the receive function's select
    waiterGets*      the outcomes of that select (M1 rcvValue / rcvDone|rcvChanClosed / rcvCtx);
                     an error becomes `callResponse{zero, err, cancelled}`  (`fromFrame = none`)
    waiterSend       `res <- *r`  (capacity `sk.stubResChanCap`; 0 = rendezvous with the stub's select)
    waiterFree       deferred `responseResolver.Free(callID, …)`, runs when the waiter returns
    callTakeRes      `case rawReturnValue := <-res` + decoding per NumOut/cancelled/err
    callLinkCtx      `case <-linkCtx.Done(): panic(linkCtx.Err())`
    callReturnOk     `return returnValues` : deferred freeClosure()s run
    callRecover      the panic path: deferred freeClosure()s run first (LIFO: they were deferred
                     after the recovering frame), then `recover()`, `setErr(err)`, arity patch
    respFrame        response loop: `go responseResolver.Publish(res.Call, {res.Value, err, false})`
    pubLookup/pubCtx/pubSendClosed   M1 publisher steps
    closureInvoke    closureManager.CallClosure: `closuresLock.Lock()`, the lookup (hit / miss logged);
                     a miss unlocks and returns; a hit starts the closure's body on the invoking thread
                     — after `Unlock()` (`sk.clInvokeOutsideLock`), or with the mutex still held
                     (`Lock(); defer Unlock()`: the fact is false)
    closureBodyDone  the closure's body returns to CallClosure (which releases the mutex if it still holds it)
    setErrEnter      some other thread of the link calls setErr(err)
    setErrStore      `L.Lock(); if fatalErr == nil { fatalErr = err }; Broadcast(); L.Unlock()`
    setErrClose      `responseResolver.Close(err)`;   order of the two by `sk.seOrder`
    watcher          `go func() { <-ctx.Done(); setErr(ctx.Err()) }()`
    linkCheck        `L.Lock(); err := fatalErr; if err == nil { Wait() …`  (parks, releasing L)
    linkWake         Wait() returns (after a Broadcast): `err = fatalErr; L.Unlock()`
    linkReturn       `return err`
    ctxCancel / ctxPropagate / cancelLink   environment

  Modelling decisions (all over-approximate the interleavings of the source):
  * `callRecover` marks the call `returned` and makes the call thread a setter (`setters c`);
    in the source the stub runs `setErr` to completion before it returns.  Everything the call
    thread does after `callRecover` is the two `setErr` steps, so the only difference is the
    moment at which `returned` is recorded (trace validation maps the stub's `seterr.enter`
    event to `callRecover`, not its `call.return` event).
  * `callStart` registers all closures of the call in one step and `callRecover`/`callReturnOk`
    release them in one step (in the source: one critical section per closure; the ids are
    fresh and unknown to the peer before the request is written).
  * the closure table's mutex (`closuresLock`, one per registry) is `clLock`: `some q` = held by the
    invoking thread `q` across the body it runs.  Every other critical section of the mutex
    (registerClosure, the free function, the look-up itself) is one atomic step, enabled only
    while `clLock = none`: `callStart` of a call that registers at least one closure,
    `callRecover` / `callReturnOk` of a call that has closures to release (the deferred
    `freeClosure()`s run before the stub returns, on the normal and on the panic path), and
    `closureInvoke`.  Calls without closures never touch the mutex.  `running q = some id`: thread
    `q` is inside the body of closure `id`; a finished body that is never reported
    (`closureBodyDone`) disables nothing as long as the mutex is not held across bodies.
  * unbuffered `res` (`sk.stubResChanCap = 0`): `waiterSend c` is the rendezvous — enabled only
    while the call thread is at its select; it puts the value into `res c`, and a non-empty
    `res c` disables `callLinkCtx` (the select has committed to the receive case).
  * `sk.respPublishAsync` is not consulted: a publisher is an M1 publisher thread either way;
    what the flag decides (whether a parked publisher stalls the response loop) belongs to the
    loop model, not to the caller side.
  * NumOut = 1 never decodes a value (the only result is the error, by the remote-definition
    check `lastOutIsError`); NumOut = 2 decodes unless `cancelled`.
-/
import Panrpc.Model.Broadcaster

namespace Panrpc.Ep
open Panrpc

/-! ### error values -/
def eClosed  : Nat := 0
def eLinkCtx : Nat := 1
def eMarshal : Nat := 2
def eDecode  : Nat := 3
/-- the call's own context error, as the value `Receive` returned for a context that was done already -/
def eCallCtx : Nat := 4
/-- an error value that comes from outside panrpc (transport, codec, handler, …) -/
def eExt (n : Nat) : Nat := n + 5

inductive RespErr where
  | none      -- nil
  | app       -- errors.New(res.Err): the peer's handler returned an error
  | ctxErr    -- the call's own context error (from the receive function)
  | closed    -- utils.ErrClosed (entry freed / table closed)
  deriving DecidableEq, Repr, Inhabited

/-- a `callResponse`: `fromFrame = some v` ⇔ it came from a response frame (`cancelled = false`) -/
structure Resp where
  fromFrame : Option Nat
  err       : RespErr
  deriving DecidableEq, Repr, Inhabited

inductive Outcome where
  | pending
  | ok (r : Resp)        -- results built from a callResponse: error result is nil iff `r.err = .none`
  | failed (e : Nat)     -- recovered panic: (zero, e)
  deriving DecidableEq, Repr, Inhabited

inductive CallPc where
  | absent
  | marshalled          -- args marshalled, closures registered
  | registered          -- Receive done
  | spawned             -- waiter goroutine started
  | written             -- request written; at the select
  | decoded             -- results built, about to return
  | panicking (e : Nat) -- a panic with value e is unwinding the stub
  | returned
  deriving DecidableEq, Repr, Inhabited

structure Call where
  pc       : CallPc
  ctx      : Nat         -- the call's own context (an M1 context id)
  numOut   : Nat         -- 1 or 2
  closures : List Nat    -- closure ids registered by this call
  outcome  : Outcome
  deriving DecidableEq, Repr, Inhabited

def Call.none : Call := { pc := .absent, ctx := 0, numOut := 1, closures := [], outcome := .pending }

inductive Waiter where
  | absent
  | start
  | recv                -- inside rr()'s select
  | have (r : Resp)     -- about to `res <- *r`
  | sent
  | exited
  deriving DecidableEq, Repr, Inhabited

inductive SetErrPc where
  | absent
  | entered (e : Nat)
  | stored (e : Nat)       -- slot critical section done, Close still to come (storeThenClose)
  | closedFirst (e : Nat)  -- Close done, slot critical section still to come (closeThenStore)
  | done
  deriving DecidableEq, Repr, Inhabited

inductive LinkPc where
  | running
  | waiting                       -- parked in Cond.Wait
  | woken                         -- Broadcast seen, has not re-acquired the lock yet
  | read (e : Option Nat)         -- has read the slot, about to return it
  | returned (e : Option Nat)
  deriving DecidableEq, Repr, Inhabited

structure Invoke where
  thread : Nat
  id     : Nat
  hit    : Bool
  deriving DecidableEq, Repr, Inhabited

structure State where
  bc           : Bc.State
  calls        : Nat → Call
  waiters      : Nat → Waiter
  res          : Nat → List Resp     -- the per-call `res` channel
  pubErr       : Nat → Bool          -- publisher p's frame had a non-blank Err
  closures     : Nat → Bool          -- closure table
  nextClosure  : Nat
  owner        : Nat → Option Nat    -- ghost: the call that registered a closure id
  invokes      : List Invoke         -- ghost: CallClosure lookups, newest first
  clLock       : Option Nat          -- closuresLock: the invoking thread that holds it across a closure body
  running      : Nat → Option Nat    -- invoking thread ↦ the closure whose body it is running
  linkCtxDone  : Bool
  watcherFired : Bool
  slot         : Option Nat          -- fatalErr
  fatalLog     : List Nat            -- ghost: arguments of the store critical sections, in order
  setters      : Nat → SetErrPc
  link         : LinkPc
  crashed      : Bool
  deriving Inhabited

def init : State :=
  { bc := Bc.init, calls := fun _ => Call.none, waiters := fun _ => .absent, res := fun _ => [],
    pubErr := fun _ => false, closures := fun _ => false, nextClosure := 0, owner := fun _ => none,
    invokes := [], clLock := none, running := fun _ => none, linkCtxDone := false, watcherFired := false, slot := none, fatalLog := [],
    setters := fun _ => .absent, link := .running, crashed := false }

inductive Act where
  | callStart (c x numOut nClosures : Nat)
  | callMarshalFail (c : Nat)
  | callReceive (c : Nat)
  | callSpawn (c : Nat)
  | callWrite (c : Nat)
  | callWriteFail (c e : Nat)
  | waiterRecvCall (c : Nat)
  | waiterGetsValue (c p : Nat)
  | waiterGetsDone (c : Nat)
  | waiterGetsCtx (c : Nat)
  | waiterSend (c : Nat)
  | waiterFree (c : Nat)
  | callTakeRes (c : Nat) (decodeFails : Bool)
  | callLinkCtx (c : Nat)
  | callRecover (c e : Nat)
  | callReturnOk (c : Nat)
  | respFrame (p callId frameId : Nat) (hasErr : Bool)
  | pubLookup (p : Nat)
  | pubCtx (p : Nat)
  | pubSendClosed (p : Nat)
  | closureInvoke (q id : Nat)
  | closureBodyDone (q : Nat)
  | setErrEnter (t e : Nat)
  | setErrStore (t : Nat)
  | setErrClose (t : Nat)
  | watcher (t : Nat)
  | linkCheck
  | linkWake
  | linkReturn
  | ctxCancel (x : Nat)
  | ctxPropagate (g : Nat)
  | cancelLink
  deriving DecidableEq, Repr, Inhabited

/-- does the stub unmarshal the value of this response? (NumOut = 2: unless `cancelled`;
    NumOut = 1: the only result is the error, nothing is decoded) -/
def decodes (sk : Skeleton) (numOut : Nat) (r : Resp) : Bool :=
  numOut == 2 && (r.fromFrame.isSome || !sk.stubTwoOutSkipsDecodeWhenCancelled)

/-- the closure table after the deferred `freeClosure()`s of call `c` ran -/
def freeClosures (sk : Skeleton) (s : State) (c : Nat) : Nat → Bool :=
  fun id => if sk.stubClosureFreeDeferred = true ∧ id ∈ (s.calls c).closures then false else s.closures id

/-- the ids `callStart` registers -/
def newClosures (sk : Skeleton) (s : State) (nCl : Nat) : List Nat :=
  if sk.stubFuncArgsRegistered = true then
    -- a fresh id per registration (`clIdFresh`: a UUID); an id derived from the table's current SIZE instead repeats as
    -- soon as an earlier call has returned while a later one is pending
    List.range' (if sk.clIdFresh = true then s.nextClosure
                 else ((List.range s.nextClosure).filter (fun id => s.closures id)).length) nCl
  else []

/-- does the return of call `c` run a `freeClosure()` (and so take `closuresLock`)? -/
def releases (sk : Skeleton) (s : State) (c : Nat) : Prop :=
  sk.stubClosureFreeDeferred = true ∧ (s.calls c).closures ≠ []

instance (sk : Skeleton) (s : State) (c : Nat) : Decidable (releases sk s c) := by
  unfold releases; exact inferInstance

/-- no invoking thread is inside the body of one of call `c`'s closures -/
def noneRunning (s : State) (c : Nat) : Bool :=
  s.invokes.all fun iv => match s.running iv.thread with
    | some id => !((s.calls c).closures.contains id)
    | none => true

/-- The deferred `freeClosure()`s of call `c` can run to their end: the table's mutex is free, and — only if the
    release function WAITS for running invocations (`clFreeNeverWaits = false`, e.g. a `WaitGroup` "so that the
    caller's function is never still executing after the closure has been freed") — none of its closures is running. -/
def canRelease (sk : Skeleton) (s : State) (c : Nat) : Prop :=
  releases sk s c → s.clLock = none ∧ (sk.clFreeNeverWaits = true ∨ noneRunning s c = true)

instance (sk : Skeleton) (s : State) (c : Nat) : Decidable (canRelease sk s c) := by
  unfold canRelease; exact inferInstance

/-- `if fatalErr == nil { fatalErr = err }` -/
def firstOr (o : Option Nat) (e : Nat) : Option Nat :=
  match o with
  | some x => some x
  | none => some e

/-- the slot critical section of `setErr e` -/
def store (sk : Skeleton) (s : State) (e : Nat) : State :=
  { s with slot := if sk.seFirstOnly = true then firstOr s.slot e else some e,
           fatalLog := s.fatalLog ++ [e],
           link := if s.link = .waiting ∧ sk.seBroadcasts = true then .woken else s.link }

def step (sk : Skeleton) (s : State) : Act → Option State
  | .callStart c x numOut nCl =>
    if s.crashed = false ∧ (s.calls c).pc = .absent ∧ s.setters c = .absent ∧ (numOut = 1 ∨ numOut = 2) ∧
       (newClosures sk s nCl ≠ [] → s.clLock = none) then
      let ids := newClosures sk s nCl
      some { s with calls := upd s.calls c { pc := .marshalled, ctx := x, numOut := numOut, closures := ids, outcome := .pending },
                    closures := fun id => if id ∈ ids then true else s.closures id,
                    owner := fun id => if id ∈ ids then some c else s.owner id,
                    nextClosure := s.nextClosure + ids.length }
    else none
  | .callMarshalFail c =>
    if s.crashed = false ∧ (s.calls c).pc = .marshalled then
      some { s with calls := upd s.calls c { s.calls c with pc := .panicking eMarshal } }
    else none
  | .callReceive c =>
    if s.crashed = false ∧ (s.calls c).pc = .marshalled then
      match Bc.step sk s.bc (.receive c c (s.calls c).ctx) with
      | some bc' =>
        if bc'.rcvs c = .refused then
          some { s with bc := bc', crashed := bc'.crashed, calls := upd s.calls c { s.calls c with pc := .panicking eClosed } }
        else if bc'.rcvs c = .refusedCtx then
          some { s with bc := bc', crashed := bc'.crashed, calls := upd s.calls c { s.calls c with pc := .panicking eCallCtx } }
        else
          some { s with bc := bc', crashed := bc'.crashed, calls := upd s.calls c { s.calls c with pc := .registered } }
      | none => none
    else none
  | .callSpawn c =>
    if s.crashed = false ∧ (s.calls c).pc = .registered then
      some { s with calls := upd s.calls c { s.calls c with pc := .spawned }, waiters := upd s.waiters c .start }
    else none
  | .callWrite c =>
    if s.crashed = false ∧ (s.calls c).pc = .spawned ∧ s.linkCtxDone = false then
      some { s with calls := upd s.calls c { s.calls c with pc := .written } }
    else none
  | .callWriteFail c e =>
    if s.crashed = false ∧ (s.calls c).pc = .spawned then
      some { s with calls := upd s.calls c { s.calls c with pc := .panicking (if s.linkCtxDone = true then eLinkCtx else eExt e) } }
    else none
  | .waiterRecvCall c =>
    if s.crashed = false ∧ s.waiters c = .start then
      match Bc.step sk s.bc (.rcvCall c) with
      | some bc' => some { s with bc := bc', crashed := bc'.crashed, waiters := upd s.waiters c .recv }
      | none => none
    else none
  | .waiterGetsValue c p =>
    if s.crashed = false ∧ s.waiters c = .recv then
      match s.bc.pubs p with
      | .holding _ v _ =>
        match Bc.step sk s.bc (.rcvValue c p) with
        | some bc' =>
          some { s with bc := bc', crashed := bc'.crashed,
                        waiters := upd s.waiters c (.have { fromFrame := some v, err := if s.pubErr p = true then .app else .none }) }
        | none => none
      | _ => none
    else none
  | .waiterGetsDone c =>
    if s.crashed = false ∧ s.waiters c = .recv then
      match Bc.step sk s.bc (.rcvDone c) with
      | some bc' => some { s with bc := bc', crashed := bc'.crashed, waiters := upd s.waiters c (.have { fromFrame := none, err := .closed }) }
      | none =>
        match Bc.step sk s.bc (.rcvChanClosed c) with
        | some bc' => some { s with bc := bc', crashed := bc'.crashed, waiters := upd s.waiters c (.have { fromFrame := none, err := .closed }) }
        | none => none
    else none
  | .waiterGetsCtx c =>
    if s.crashed = false ∧ s.waiters c = .recv then
      match Bc.step sk s.bc (.rcvCtx c) with
      | some bc' => some { s with bc := bc', crashed := bc'.crashed, waiters := upd s.waiters c (.have { fromFrame := none, err := .ctxErr }) }
      | none => none
    else none
  | .waiterSend c =>
    match s.waiters c with
    | .have r =>
      if s.crashed = false ∧
         (if sk.stubResChanCap = 0 then (s.calls c).pc = .written ∧ s.res c = [] else (s.res c).length < sk.stubResChanCap) then
        some { s with res := upd s.res c (s.res c ++ [r]), waiters := upd s.waiters c .sent }
      else none
    | _ => none
  | .waiterFree c =>
    if s.crashed = false ∧ s.waiters c = .sent then
      if sk.stubWaiterFreesOnExit = true then
        match Bc.step sk s.bc (.free c) with
        | some bc' => some { s with bc := bc', crashed := bc'.crashed, waiters := upd s.waiters c .exited }
        | none => none
      else some { s with waiters := upd s.waiters c .exited }
    else none
  | .callTakeRes c fail =>
    if s.crashed = false ∧ (s.calls c).pc = .written ∧ sk.stubSelectsRes = true then
      match s.res c with
      | r :: rest =>
        if sk.panicSitesCanonical = false ∧ r.err = .ctxErr then
          -- (a stub that panics on an OUTCOME — here the call's own context error — and not only on failures of the link)
          some { s with res := upd s.res c rest, calls := upd s.calls c { s.calls c with pc := .panicking eCallCtx } }
        else if decodes sk (s.calls c).numOut r = true ∧ fail = true then
          some { s with res := upd s.res c rest, calls := upd s.calls c { s.calls c with pc := .panicking eDecode } }
        else
          some { s with res := upd s.res c rest, calls := upd s.calls c { s.calls c with pc := .decoded, outcome := .ok r } }
      | [] => none
    else none
  | .callLinkCtx c =>
    -- with an unbuffered `res`, a non-empty `res c` means the rendezvous has happened: the
    -- select has already committed to the receive case
    if s.crashed = false ∧ (s.calls c).pc = .written ∧ s.linkCtxDone = true ∧ sk.stubSelectsLinkCtx = true ∧
       (sk.stubResChanCap = 0 → s.res c = []) then
      some { s with calls := upd s.calls c { s.calls c with pc := .panicking eLinkCtx } }
    else none
  | .callRecover c e =>
    if s.crashed = false ∧ (s.calls c).pc = .panicking e ∧ canRelease sk s c then
      if sk.stubRecovers = true then
        some { s with closures := freeClosures sk s c,
                      calls := upd s.calls c { s.calls c with pc := .returned, outcome := .failed e },
                      setters := if sk.stubRecoverCallsSetErr = true then upd s.setters c (.entered e) else s.setters }
      else some { s with crashed := true }       -- the panic leaves the stub: process dies
    else none
  | .callReturnOk c =>
    if s.crashed = false ∧ (s.calls c).pc = .decoded ∧ canRelease sk s c then
      some { s with closures := freeClosures sk s c,
                    calls := upd s.calls c { s.calls c with pc := .returned } }
    else none
  | .respFrame p callId frameId hasErr =>
    if s.crashed = false then
      match Bc.step sk s.bc (.pubStart p callId frameId) with
      | some bc' => some { s with bc := bc', crashed := bc'.crashed, pubErr := upd s.pubErr p hasErr }
      | none => none
    else none
  | .pubLookup p =>
    if s.crashed = false then
      match Bc.step sk s.bc (.pubLookup p) with
      | some bc' => some { s with bc := bc', crashed := bc'.crashed }
      | none => none
    else none
  | .pubCtx p =>
    if s.crashed = false then
      match Bc.step sk s.bc (.pubCtx p) with
      | some bc' => some { s with bc := bc', crashed := bc'.crashed }
      | none => none
    else none
  | .pubSendClosed p =>
    if s.crashed = false then
      match Bc.step sk s.bc (.pubSendClosed p) with
      | some bc' => some { s with bc := bc', crashed := bc'.crashed }
      | none => none
    else none
  | .closureInvoke q id =>
    -- (the table holds the closure's wrapper itself: `clStoresCreatedClosure`; a wrapper that serialises invocations
    --  with a per-closure mutex lets nobody in while some thread is inside that closure's body)
    if s.crashed = false ∧ s.clLock = none ∧
       (sk.clStoresCreatedClosure = true ∨ s.invokes.all (fun iv => decide (s.running iv.thread ≠ some id)) = true) then
      some { s with invokes := { thread := q, id := id, hit := s.closures id } :: s.invokes,
                    running := if s.closures id = true then upd s.running q (some id) else s.running,
                    clLock := if s.closures id = true ∧ sk.clInvokeOutsideLock = false then some q else none }
    else none
  | .closureBodyDone q =>
    if s.crashed = false ∧ s.running q ≠ none then
      some { s with running := upd s.running q none,
                    clLock := if s.clLock = some q then none else s.clLock }
    else none
  | .setErrEnter t e =>
    if s.crashed = false ∧ s.setters t = .absent ∧ (s.calls t).pc = .absent then
      some { s with setters := upd s.setters t (.entered (eExt e)) }
    else none
  | .setErrStore t =>
    if s.crashed = false then
      match s.setters t, sk.seOrder with
      | .entered e, .storeThenClose => some { store sk s e with setters := upd s.setters t (.stored e) }
      | .entered e, .noClose => some { store sk s e with setters := upd s.setters t .done }
      | .closedFirst e, .closeThenStore => some { store sk s e with setters := upd s.setters t .done }
      | _, _ => none
    else none
  | .setErrClose t =>
    if s.crashed = false then
      match s.setters t, sk.seOrder with
      | .stored _, .storeThenClose =>
        match Bc.step sk s.bc .close with
        | some bc' => some { s with bc := bc', crashed := bc'.crashed, setters := upd s.setters t .done }
        | none => none
      | .entered e, .closeThenStore =>
        match Bc.step sk s.bc .close with
        | some bc' => some { s with bc := bc', crashed := bc'.crashed, setters := upd s.setters t (.closedFirst e) }
        | none => none
      | _, _ => none
    else none
  | .watcher t =>
    if s.crashed = false ∧ s.linkCtxDone = true ∧ s.watcherFired = false ∧ sk.watcherCallsSetErr = true ∧
       s.setters t = .absent ∧ (s.calls t).pc = .absent then
      some { s with watcherFired := true, setters := upd s.setters t (.entered eLinkCtx) }
    else none
  | .linkCheck =>
    if s.crashed = false ∧ s.link = .running then
      if s.slot = none ∧ sk.linkWaitsOnCond = true then some { s with link := .waiting }
      else some { s with link := .read s.slot }
    else none
  | .linkWake =>
    if s.crashed = false ∧ s.link = .woken then some { s with link := .read s.slot } else none
  | .linkReturn =>
    if s.crashed = false then
      match s.link with
      | .read e => some { s with link := .returned e }
      | _ => none
    else none
  | .ctxCancel x =>
    if s.crashed = false then
      match Bc.step sk s.bc (.ctxCancel x) with
      | some bc' => some { s with bc := bc', crashed := bc'.crashed }
      | none => none
    else none
  | .ctxPropagate g =>
    if s.crashed = false then
      match Bc.step sk s.bc (.ctxPropagate g) with
      | some bc' => some { s with bc := bc', crashed := bc'.crashed }
      | none => none
    else none
  | .cancelLink =>
    if s.crashed = false then some { s with linkCtxDone := true } else none

inductive Reach (sk : Skeleton) : State → Prop where
  | init : Reach sk init
  | step {s s' : State} (a : Act) : Reach sk s → step sk s a = some s' → Reach sk s'

def run (sk : Skeleton) (s : State) (acts : List Act) : Option State := runFrom (step sk) s acts

theorem reach_of_run (sk : Skeleton) {s s' : State} (acts : List Act)
    (h : Reach sk s) (hr : run sk s acts = some s') : Reach sk s' :=
  runFrom_invariant (fun _ a _ h hs => Reach.step a h hs) acts h hr

end Panrpc.Ep
