/-
  Model/Registry.lean — M4: labelled transition system of the link life-cycle part of
  rpc/registry.go (`LinkMessage`'s setup goroutine, the remotes table, the connect /
  disconnect hooks, `ForRemotes`, the remote id a handler reads from its context).

  One registry, unboundedly many links `l : Nat` (every `Link*` call is a fresh `l`; a link
  is a thread group: setup goroutine, request loop, response loop, context watcher, the
  handler goroutines, the application threads calling through the link's remote).  One
  constructor of `Op` per atomic step; an action is an `Op` tagged with the link it belongs
  to, so "every action of link l" is literally `{ a // a.link = l }`.  Every effect that
  differs between source trees is selected by a `Skeleton` fact (`sk.rg…`, `sk.req…`,
  `sk.resp…`), regenerated from /repo on every run.

  Source map (rpc/registry.go, `LinkMessage`):
    linkStart            the `Link*` call: per-link closures are built
                         (`responseResolver`, `remote`, `fatalErr`), setup goroutine spawned
    setupRegister        `remoteID := uuid.NewString()`; lock; `r.remotes[remoteID] = …`;
                         [registry hook; link hook;] unlock          (one step iff rgRegisterAtomic)
    setupConnectHooks    the connect hooks when they are NOT in the insert's critical section
    loopsStart           `wg.Add(1); go requestLoop; wg.Add(1); go responseLoop`, then `wg.Wait()`
    reqRead              request loop: `readRequestCtx()` + `Unmarshal` succeed, `go resolve…`
    reqHandle            a resolver goroutine enters the handler: the handler's context carries
                         `context.WithValue(ctx, RemoteIDContextKey, remoteID)`
    reqReadFails         `readRequestCtx()` returns an error → `setErr(err); return`
    reqBadFrame          `req.Unmarshal` fails                  → `setErr(err); return`
    respRead tgt         response loop: read + unmarshal succeed, `go responseResolver.Publish`;
                         `tgt` = link whose pending call is completed by it (none: unknown call id)
    respReadFails / respBadFrame   as for the request loop
    setupLoopsDone       `wg.Wait()` returns
    setupUnregister      deferred: lock; `delete(r.remotes, remoteID)`; [hooks;] unlock
    setupDisconnectHooks the disconnect hooks when they are NOT in the delete's critical section
    callOn               the application calls a stub of link l's remote (makeRPC closure)
    callDone             one call in flight on l returns without a response (its own ctx)
    cancel               the application cancels the context it passed to this `Link*` call
    ctxWatch             `go func(){ <-ctx.Done(); setErr(ctx.Err()) }()`
    failReads            the application makes this link's transport reads fail (closes the conn)
    faultOn              any other fatal error on l (write error, codec error, handler error,
                         remote-walk error, recovered panic): `setErr(err)`

  `ForRemotes` iterates `r.remotes` inside one `remotesLock` region
  (`sk.rgForRemotesUnderLock`): what it enumerates is the key set of `remotes` at one instant.
-/
import Panrpc.Go.Prim
import Panrpc.Skeleton

namespace Panrpc.Rg

inductive HookKind where
  | regConnect       -- r.hooks.OnClientConnect      (registry-wide)
  | regDisconnect    -- r.hooks.OnClientDisconnect
  | linkConnect      -- hooks.OnClientConnect        (the *LinkHooks of this Link call)
  | linkDisconnect   -- hooks.OnClientDisconnect
  deriving DecidableEq, Repr, Inhabited

structure HookEv where
  kind : HookKind
  link : Nat
  id   : Nat
  deriving DecidableEq, Repr, Inhabited

/-- program counter of the setup goroutine -/
inductive Setup where
  | absent         -- no `Link*` call with this index yet
  | started        -- goroutine spawned, before the registration region
  | inserted       -- (only if registration is not atomic) in the table, hooks not yet called
  | registered     -- past the registration region, loops not yet spawned / not yet waiting
  | waiting        -- in `wg.Wait()`
  | loopsDone      -- `wg.Wait()` returned, deferred function not yet run
  | deleted        -- (only if removal is not atomic) out of the table, hooks not yet called
  | unregistered   -- goroutine exited
  deriving DecidableEq, Repr, Inhabited

inductive Loop where
  | notStarted
  | reading
  | exited
  deriving DecidableEq, Repr, Inhabited

structure Link where
  setup        : Setup
  id           : Option Nat   -- the `remoteID` local of the setup goroutine
  reqLoop      : Loop
  respLoop     : Loop
  ended        : Bool         -- fatal slot set: `Link*` returns / has returned
  closed       : Bool         -- pending-call table (`responseResolver`) closed
  ctxCancelled : Bool
  readsFail    : Bool
  inflight     : Nat          -- calls in flight on this link (entries of its pending-call table)
  pendingReq   : Nat          -- request frames read whose handler has not been entered yet
  deriving DecidableEq, Repr, Inhabited

def Link.fresh : Link :=
  { setup := .absent, id := none, reqLoop := .notStarted, respLoop := .notStarted,
    ended := false, closed := false, ctxCancelled := false, readsFail := false,
    inflight := 0, pendingReq := 0 }

/-- ghost: a handler was entered on `link`; `rid` is what `GetRemoteID(ctx)` yields there -/
structure Invocation where
  link : Nat
  rid  : Option Nat
  deriving DecidableEq, Repr, Inhabited

/-- ghost: a call through the remote of link `via` wrote its request frame with the writer of
    link `writer` and waits in the pending-call table `table` (`some l`: link l's own table,
    `none`: a table shared by all links) -/
structure Sent where
  via    : Nat
  writer : Nat
  table  : Option Nat
  deriving DecidableEq, Repr, Inhabited

/-- ghost: a response frame read by the response loop of link `reader` completed a call that was
    made through the remote of link `caller` -/
structure Delivered where
  reader : Nat
  caller : Nat
  deriving DecidableEq, Repr, Inhabited

structure State where
  remotes     : Nat → Option Nat     -- r.remotes: remote id → owning link
  nextId      : Nat                  -- uuid.NewString() counter (freshness assumption)
  lastImpl    : Nat                  -- link that last ran implementRemoteStructRecursively
                                     --   (only read if the remote value is NOT per link)
  links       : Nat → Link
  hookLog     : List HookEv          -- ghost, newest first
  invocations : List Invocation      -- ghost, newest first
  written     : List Sent            -- ghost, newest first
  delivered   : List Delivered       -- ghost, newest first
  deriving Inhabited

def init : State :=
  { remotes := fun _ => none, nextId := 0, lastImpl := 0, links := fun _ => Link.fresh,
    hookLog := [], invocations := [], written := [], delivered := [] }

inductive Op where
  | linkStart
  | setupRegister
  | setupConnectHooks
  | loopsStart
  | reqRead
  | reqHandle
  | reqReadFails
  | reqBadFrame
  | respRead (tgt : Option Nat)
  | respReadFails
  | respBadFrame
  | setupLoopsDone
  | setupUnregister
  | setupDisconnectHooks
  | callOn
  | callDone
  | cancel
  | ctxWatch
  | failReads
  | faultOn
  deriving DecidableEq, Repr, Inhabited

structure Act where
  link : Nat
  op   : Op
  deriving DecidableEq, Repr, Inhabited

/-- `setErr` of link `l`: sets the fatal slot and closes the pending-call table.  Both are
    per-link objects iff the source creates them inside `LinkMessage`
    (`rgPerLinkFatalSlot`, `rgPerLinkBroadcaster`); a shared one is hit for every link. -/
def setErrLinks (sk : Skeleton) (links : Nat → Link) (l : Nat) : Nat → Link := fun i =>
  let k := links i
  { k with
    ended    := k.ended || (decide (i = l) || !sk.rgPerLinkFatalSlot),
    closed   := k.closed || (decide (i = l) || !sk.rgPerLinkBroadcaster),
    inflight := if i = l ∨ sk.rgPerLinkBroadcaster = false then 0 else k.inflight }

/-- hook events of the connect side, newest first -/
def connectEvs (sk : Skeleton) (l i : Nat) : List HookEv :=
  (if sk.rgLinkConnectHook = true then [⟨.linkConnect, l, i⟩] else []) ++
  (if sk.rgRegistryConnectHook = true then [⟨.regConnect, l, i⟩] else [])

def disconnectEvs (sk : Skeleton) (l i : Nat) : List HookEv :=
  (if sk.rgLinkDisconnectHook = true then [⟨.linkDisconnect, l, i⟩] else []) ++
  (if sk.rgRegistryDisconnectHook = true then [⟨.regDisconnect, l, i⟩] else [])

def step (sk : Skeleton) (s : State) (a : Act) : Option State :=
  let l := a.link
  let k := s.links l
  match a.op with
  | .linkStart =>
    if k.setup = .absent then
      some { s with links := upd s.links l { k with setup := .started }, lastImpl := l }
    else none
  | .setupRegister =>
    if k.setup = .started then
      let i := if sk.rgPerLinkRemoteId = true then s.nextId else 0
      if sk.rgRegisterAtomic = true then
        some { s with remotes := upd s.remotes i (some l), nextId := s.nextId + 1,
                      links := upd s.links l { k with setup := .registered, id := some i },
                      hookLog := connectEvs sk l i ++ s.hookLog }
      else
        some { s with remotes := upd s.remotes i (some l), nextId := s.nextId + 1,
                      links := upd s.links l { k with setup := .inserted, id := some i } }
    else none
  | .setupConnectHooks =>
    if k.setup = .inserted then
      match k.id with
      | some i =>
        some { s with links := upd s.links l { k with setup := .registered },
                      hookLog := connectEvs sk l i ++ s.hookLog }
      | none => none   -- unreachable: `inserted` is entered with the id assigned
    else none
  | .loopsStart =>
    if k.setup = .registered then
      some { s with links := upd s.links l { k with
        setup := .waiting,
        reqLoop := if k.reqLoop = .notStarted then .reading else k.reqLoop,
        respLoop := if k.respLoop = .notStarted then .reading else k.respLoop } }
    else if sk.rgRegisterBeforeLoops = false ∧ k.setup = .started ∧ k.reqLoop = .notStarted then
      -- the loops are spawned before the registration region is reached
      some { s with links := upd s.links l { k with reqLoop := .reading, respLoop := .reading } }
    else none
  | .reqRead =>
    if k.reqLoop = .reading ∧ k.readsFail = false then
      some { s with links := upd s.links l { k with pendingReq := k.pendingReq + 1 } }
    else none
  | .reqHandle =>
    if 0 < k.pendingReq then
      some { s with links := upd s.links l { k with pendingReq := k.pendingReq - 1 },
                    invocations :=
                      ⟨l, if sk.reqCtxCarriesRemoteId = true then k.id else none⟩ :: s.invocations }
    else none
  | .reqReadFails =>
    if k.reqLoop = .reading ∧ (k.readsFail = true ∨ k.ctxCancelled = true) then
      let ls := setErrLinks sk s.links l
      some { s with links := upd ls l { (ls l) with
        reqLoop := if sk.reqLoopExitsOnReadErr = true then .exited else .reading } }
    else none
  | .reqBadFrame =>
    if k.reqLoop = .reading ∧ k.readsFail = false then
      let ls := setErrLinks sk s.links l
      some { s with links := upd ls l { (ls l) with
        reqLoop := if sk.reqLoopExitsOnReadErr = true then .exited else .reading } }
    else none
  | .respRead tgt =>
    if k.respLoop = .reading ∧ k.readsFail = false then
      match tgt with
      | none => some s
      | some t =>
        -- the frame is published into the table the response loop of l closes over
        if (t = l ∨ sk.rgPerLinkBroadcaster = false) ∧ 0 < (s.links t).inflight then
          some { s with links := upd s.links t { (s.links t) with inflight := (s.links t).inflight - 1 },
                        delivered := ⟨l, t⟩ :: s.delivered }
        else none
    else none
  | .respReadFails =>
    if k.respLoop = .reading ∧ (k.readsFail = true ∨ k.ctxCancelled = true) then
      let ls := setErrLinks sk s.links l
      some { s with links := upd ls l { (ls l) with
        respLoop := if sk.respLoopExitsOnReadErr = true then .exited else .reading } }
    else none
  | .respBadFrame =>
    if k.respLoop = .reading ∧ k.readsFail = false then
      let ls := setErrLinks sk s.links l
      some { s with links := upd ls l { (ls l) with
        respLoop := if sk.respLoopExitsOnReadErr = true then .exited else .reading } }
    else none
  | .setupLoopsDone =>
    if k.setup = .waiting ∧
       (sk.rgWaitsForBothLoops = false ∨ (k.reqLoop = .exited ∧ k.respLoop = .exited)) then
      some { s with links := upd s.links l { k with setup := .loopsDone } }
    else none
  | .setupUnregister =>
    if k.setup = .loopsDone ∨
       (sk.rgUnregisterDeferredAfterWait = false ∧ (k.setup = .registered ∨ k.setup = .waiting)) then
      match k.id with
      | some i =>
        if sk.rgUnregisterAtomic = true then
          some { s with remotes := upd s.remotes i none,
                        links := upd s.links l { k with setup := .unregistered },
                        hookLog := disconnectEvs sk l i ++ s.hookLog }
        else
          some { s with remotes := upd s.remotes i none,
                        links := upd s.links l { k with setup := .deleted } }
      | none => none   -- unreachable: the `defer` is executed after `remoteID` is assigned
    else none
  | .setupDisconnectHooks =>
    if k.setup = .deleted then
      match k.id with
      | some i =>
        some { s with links := upd s.links l { k with setup := .unregistered },
                      hookLog := disconnectEvs sk l i ++ s.hookLog }
      | none => none
    else none
  | .callOn =>
    -- the application holds link l's remote: it got it from ForRemotes or a connect hook
    if k.id.isSome = true then
      let w := if sk.rgPerLinkRemoteValue = true then l else s.lastImpl
      if (s.links w).closed = false ∧ (s.links w).ctxCancelled = false then
        some { s with links := upd s.links w { (s.links w) with inflight := (s.links w).inflight + 1 },
                      written := ⟨l, w, if sk.rgPerLinkBroadcaster = true then some w else none⟩ :: s.written }
      else
        -- Receive refuses / the write fails: recovered panic → that stub's setErr
        some { s with links := setErrLinks sk s.links w }
    else none
  | .callDone =>
    if 0 < k.inflight then
      some { s with links := upd s.links l { k with inflight := k.inflight - 1 } }
    else none
  | .cancel =>
    if k.setup ≠ .absent then
      some { s with links := upd s.links l { k with ctxCancelled := true } }
    else none
  | .ctxWatch =>
    if k.setup ≠ .absent ∧ k.ctxCancelled = true ∧ sk.watcherCallsSetErr = true then
      some { s with links := setErrLinks sk s.links l }
    else none
  | .failReads =>
    if k.setup ≠ .absent then
      some { s with links := upd s.links l { k with readsFail := true } }
    else none
  | .faultOn =>
    if k.setup ≠ .absent then
      some { s with links := setErrLinks sk s.links l }
    else none

inductive Reach (sk : Skeleton) : State → Prop where
  | init : Reach sk init
  | step {s s' : State} (a : Act) : Reach sk s → step sk s a = some s' → Reach sk s'

def run (sk : Skeleton) (s : State) (acts : List Act) : Option State := runFrom (step sk) s acts

theorem reach_of_run (sk : Skeleton) {s s' : State} (acts : List Act)
    (h : Reach sk s) (hr : run sk s acts = some s') : Reach sk s' :=
  runFrom_invariant (fun _ a _ h hs => Reach.step a h hs) acts h hr

/-! ### vocabulary of the property statements (derived, never read by `step`) -/

/-- setup pcs at which the link's entry is in `r.remotes` (atomic registration / removal) -/
def Setup.live : Setup → Bool
  | .registered | .waiting | .loopsDone => true
  | _ => false

/-- the events of kind `k` of link `l`, newest first -/
def evs (log : List HookEv) (k : HookKind) (l : Nat) : List HookEv :=
  log.filter (fun e => decide (e.kind = k ∧ e.link = l))

/-- the expected events of one kind of one link, given the id they must carry (if any) -/
def expect (k : HookKind) (l : Nat) : Option Nat → List HookEv
  | some i => [⟨k, l, i⟩]
  | none => []

/-- the id of the link's disconnect events: present once the setup goroutine has exited -/
def Link.discId (k : Link) : Option Nat := if k.setup = .unregistered then k.id else none

def HookKind.isLink : HookKind → Bool
  | .linkConnect | .linkDisconnect => true
  | _ => false

def HookKind.isReg : HookKind → Bool
  | .regConnect | .regDisconnect => true
  | _ => false

/-- the registry-wide counterpart of a hook kind -/
def HookKind.toReg : HookKind → HookKind
  | .linkConnect => .regConnect
  | .linkDisconnect => .regDisconnect
  | k => k

def HookEv.toReg (e : HookEv) : HookEv := { e with kind := e.kind.toReg }

/-- events of link `l` delivered to the hooks passed to its own `Link*` call, newest first -/
def linkEvs (log : List HookEv) (l : Nat) : List HookEv :=
  log.filter (fun e => e.kind.isLink && decide (e.link = l))

/-- events of link `l` delivered to the registry-wide hooks, newest first -/
def regEvs (log : List HookEv) (l : Nat) : List HookEv :=
  log.filter (fun e => e.kind.isReg && decide (e.link = l))

def Link.eraseId (k : Link) : Link := { k with id := none }

/-- The own steps of link `l` that take it from its current pc to the exit of all three of its
    goroutines, once its transport reads fail. -/
def teardownRun (k : Link) (l : Nat) : List Act :=
  (if k.setup = .started then [⟨l, .setupRegister⟩] else []) ++
  (if k.setup = .started ∨ k.setup = .registered then [⟨l, .loopsStart⟩] else []) ++
  (if k.reqLoop ≠ .exited then [⟨l, .reqReadFails⟩] else []) ++
  (if k.respLoop ≠ .exited then [⟨l, .respReadFails⟩] else []) ++
  (if k.setup ≠ .loopsDone then [⟨l, .setupLoopsDone⟩] else []) ++
  [⟨l, .setupUnregister⟩]

/-- projection used to observe the three goroutines of a link -/
def Link.pcs (k : Link) : Setup × Loop × Loop := (k.setup, k.reqLoop, k.respLoop)

/-- the own steps that let the setup goroutine and both loops of `l` exit, from any pc -/
def exitRun (k : Link) (l : Nat) : List Act :=
  if k.setup = .unregistered then [] else teardownRun k l

end Panrpc.Rg
