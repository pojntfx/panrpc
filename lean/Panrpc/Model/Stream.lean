/-
  Model/Stream.lean — M4: `Registry.LinkStream` as a labelled transition system.

  LinkStream = one decoder goroutine + two unbuffered hand-off channels (`requests`,
  `responses`) + `decodeDone`/`decodeErr` + four adapter closures around LinkMessage.
  The two read adapters are called by LinkMessage's request loop and response loop; these
  loops are abstracted to "waiting in the adapter's select" / "exited".

  Source map (rpc/registry.go, LinkStream):
    decRead      `decode(&msg)` returns: the next element of `inp`
                   some env : the call wrote `env`; the decoder goes on to hand msg.Request, then
                              msg.Response, of `msg = decoded sk carry env` (see below)
                   none     : decode error; first of the two effects `decodeErr = err`, `close(decodeDone)`
                              (their order is `sk.stDecodeErrBeforeClose`)
    decFinish    the second of the two effects; then `break` (if `sk.stDecoderExitsOnErr`: the goroutine
                 leaves, `leave`) or loop on
    handReq      rendezvous `requests <- *msg.Request`  ×  `case request := <-requests` (request loop)
    handRes      rendezvous `responses <- *msg.Response` × `case response := <-responses` (response loop)
    decAbort c   (only if `sk.stHandoffGuarded` and `c = sk.stAbortClosesDone`) the hand-off send
                 sits in a select with the link context; the context is done: the decoder leaves.
                 c = true: it first signals the readers (`decodeErr = ctx.Err(); close(decodeDone)`
                 in the `case <-ctx.Done():` arm — what the repaired source does); c = false: it
                 just returns.  Which of the two the source has is the fact `stAbortClosesDone`;
                 the other one is not a step of the model
    readDoneReq / readDoneRes   `case <-decodeDone: return *new(T), decodeErr` (if `sk.stReadersSelectDone`);
                 LinkMessage's loop then reports the error and returns
    exitReq / exitRes  the loop leaves for any other reason (context cancelled, unmarshal error, …)
    ctxCancel    the link context is cancelled

  `inp` is the arbitrary sequence of results `decode` is going to produce; `none` is a decode
  error.  If `inp` is exhausted the decoder blocks in `decode` (no step).  Ghost fields:
  `consumed`, `gotReq`, `gotRes`, `reqEnd`, `resEnd`, `lostReq`, `lostRes`.
  A decode error is identified by the number of the `decode` call that returned it.

  The envelope variable (`stMsgFreshPerIteration`).  An element `some env` of `inp` is what ONE
  `decode(&msg)` call WROTE: a member `none` means "this frame did not mention the member" (JSON
  decoding leaves absent fields of the target untouched).  What the decoder then finds in `msg`
  depends on where `msg` is declared: inside the `for` loop (`stMsgFreshPerIteration = true`) the
  call wrote into a zero envelope and `msg = env`; hoisted out of the loop (`= false`) the call wrote
  over what the previous iteration left, `msg = env` laid over `carry` member by member (`decoded`),
  and a member the frame omits is the previous frame's — handed over again.  `carry` is the
  variable as the previous iteration left it (only maintained when it survives, i.e. when not
  fresh).  `consumed` records what the peer SENT (`env`), not what the decoder made of it.

  Leaving the goroutine (`stDoneClosedOncePerExit`).  `decodeDone` is closed once in front of each
  exit (the regular effects of `decFinish` / `decAbort true`).  If the fact is false — the reading
  modelled: a `defer close(decodeDone)` was added while an explicit close remained — leaving the
  goroutine closes once more (`leave`): on an exit that had closed already this is
  `panic: close of closed channel` in a goroutine without recover (`closeDone` sets `crashed`).

  Guard of `decAbort`: `stAbortClosesDone : Bool` says whether, in the `case <-ctx.Done():` arm of
  each hand-off select, `decodeErr` is assigned and `decodeDone` closed before the return.
  `decAbort c` is enabled only for `c = sk.stAbortClosesDone` (and only if `stHandoffGuarded`; on
  a tree without the guard there is no abort at all and the flag is irrelevant).  Hence, for a
  source with `stAbortClosesDone = true`, `dec = .done` implies that the readers have been told
  (`done_signalled` in Lemmas/Stream.lean).
-/
import Panrpc.Go.Prim
import Panrpc.Skeleton

namespace Panrpc.St

abbrev Payload := Nat

/-- the errors a read adapter can return -/
inductive StErr where
  | decode (k : Nat)     -- the error returned by `decode` call number k (0-based)
  | ctx                  -- `ctx.Err()` of the link context
  deriving DecidableEq, Repr, Inhabited

/-- `rpc.Message[T]`: optional request, optional response -/
structure Envelope where
  req : Option Payload
  res : Option Payload
  deriving DecidableEq, Repr, Inhabited

inductive Dec where
  | reading
  | handReq (p : Payload) (next : Option Payload)   -- blocked in `requests <- p`; `next` = response still to hand
  | handRes (p : Payload)                            -- blocked in `responses <- p`
  | failing (k : Nat)                                -- decode call k failed; between the two effects
  | done
  deriving DecidableEq, Repr, Inhabited

inductive Rd where
  | waiting
  | exited
  deriving DecidableEq, Repr, Inhabited

structure State where
  inp         : List (Option Envelope)
  consumed    : List (Option Envelope)     -- ghost: results `decode` already returned, in order
  dec         : Dec
  decodeErr   : Option StErr               -- the captured variable; none = nil
  decodeDone  : Bool                       -- channel closed
  reqRd       : Rd
  resRd       : Rd
  linkCtxDone : Bool
  crashed     : Bool                       -- panic: close of closed channel
  gotReq      : List Payload               -- ghost: values the request-read adapter returned
  gotRes      : List Payload               -- ghost: values the response-read adapter returned
  reqEnd      : Option (Option StErr)      -- ghost: error the request-read adapter returned (some none = nil error)
  resEnd      : Option (Option StErr)
  lostReq     : List Payload               -- ghost: decoded members the decoder dropped when it aborted
  lostRes     : List Payload
  carry       : Envelope                   -- the decoder's `msg` as the previous iteration left it (used only if it is not fresh per iteration)
  deriving DecidableEq, Repr, Inhabited

def init (inp : List (Option Envelope)) : State :=
  { inp := inp, consumed := [], dec := .reading, decodeErr := none, decodeDone := false,
    reqRd := .waiting, resRd := .waiting, linkCtxDone := false, crashed := false,
    gotReq := [], gotRes := [], reqEnd := none, resEnd := none, lostReq := [], lostRes := [],
    carry := { req := none, res := none } }

inductive Act where
  | decRead
  | decFinish
  | handReq
  | handRes
  | decAbort (signal : Bool)
  | readDoneReq
  | readDoneRes
  | exitReq
  | exitRes
  | ctxCancel
  deriving DecidableEq, Repr, Inhabited

/-- where the decoder goes after a successful decode -/
def afterDecode (sk : Skeleton) (env : Envelope) : Dec :=
  match (if sk.stDecoderHandsRequests = true then env.req else none),
        (if sk.stDecoderHandsResponses = true then env.res else none) with
  | some p, n => .handReq p n
  | none, some q => .handRes q
  | none, none => .reading

/-- `decode(&msg)` wrote `env` over a variable holding `old`: members the frame does not mention
    keep their old value -/
def Envelope.over (env old : Envelope) : Envelope :=
  { req := env.req <|> old.req, res := env.res <|> old.res }

/-- what the decoder finds in `msg` after a `decode` call that wrote `env`: `env` itself if `msg`
    is declared inside the loop, `env` over the previous iteration's `msg` if it is hoisted out -/
def decoded (sk : Skeleton) (carry env : Envelope) : Envelope :=
  if sk.stMsgFreshPerIteration = true then env else env.over carry

/-- `close(decodeDone)` -/
def closeDone (s : State) : State :=
  if s.decodeDone = true then { s with crashed := true } else { s with decodeDone := true }

/-- the decoder goroutine returns: nothing more if `decodeDone` is closed exactly once per exit
    (the regular effects); otherwise the surplus close -/
def leave (sk : Skeleton) (s : State) : State :=
  if sk.stDoneClosedOncePerExit = true then s else closeDone s

/-- `decodeErr = ctx.Err(); close(decodeDone)` if the aborting decoder signals the readers -/
def abortWith (signal : Bool) (s : State) : State :=
  if signal = true then closeDone { s with decodeErr := some .ctx } else s

def step (sk : Skeleton) (s : State) : Act → Option State
  | .decRead =>
    if s.crashed = false ∧ s.dec = .reading then
      match s.inp with
      | [] => none
      | some env :: rest =>
        let msg := decoded sk s.carry env
        some { s with inp := rest, consumed := s.consumed ++ [some env], dec := afterDecode sk msg,
                      carry := if sk.stMsgFreshPerIteration = true then s.carry else msg }
      | none :: rest =>
        let k := s.consumed.length
        let s1 := { s with inp := rest, consumed := s.consumed ++ [none], dec := .failing k }
        if sk.stDecodeErrBeforeClose = true then some { s1 with decodeErr := some (.decode k) }
        else some (closeDone s1)
    else none
  | .decFinish =>
    if s.crashed = false then
      match s.dec with
      | .failing k =>
        let s1 := { s with dec := if sk.stDecoderExitsOnErr = true then .done else .reading }
        let s2 := if sk.stDecodeErrBeforeClose = true then closeDone s1
                  else { s1 with decodeErr := some (.decode k) }
        some (if sk.stDecoderExitsOnErr = true then leave sk s2 else s2)
      | _ => none
    else none
  | .handReq =>
    if s.crashed = false ∧ s.reqRd = .waiting then
      match s.dec with
      | .handReq p next =>
        some { s with gotReq := s.gotReq ++ [p],
                      dec := match next with | some q => .handRes q | none => .reading }
      | _ => none
    else none
  | .handRes =>
    if s.crashed = false ∧ s.resRd = .waiting then
      match s.dec with
      | .handRes q => some { s with gotRes := s.gotRes ++ [q], dec := .reading }
      | _ => none
    else none
  | .decAbort signal =>
    if s.crashed = false ∧ sk.stHandoffGuarded = true ∧ s.linkCtxDone = true ∧
        signal = sk.stAbortClosesDone then
      match s.dec with
      | .handReq p next =>
        some (leave sk (abortWith signal { s with dec := .done, lostReq := [p], lostRes := next.toList }))
      | .handRes q => some (leave sk (abortWith signal { s with dec := .done, lostRes := [q] }))
      | _ => none
    else none
  | .readDoneReq =>
    if s.crashed = false ∧ s.reqRd = .waiting ∧ s.decodeDone = true ∧ sk.stReadersSelectDone = true then
      some { s with reqRd := .exited, reqEnd := some s.decodeErr }
    else none
  | .readDoneRes =>
    if s.crashed = false ∧ s.resRd = .waiting ∧ s.decodeDone = true ∧ sk.stReadersSelectDone = true then
      some { s with resRd := .exited, resEnd := some s.decodeErr }
    else none
  | .exitReq =>
    if s.crashed = false ∧ s.reqRd = .waiting then some { s with reqRd := .exited } else none
  | .exitRes =>
    if s.crashed = false ∧ s.resRd = .waiting then some { s with resRd := .exited } else none
  | .ctxCancel =>
    if s.crashed = false then some { s with linkCtxDone := true } else none

inductive Reach (sk : Skeleton) (inp : List (Option Envelope)) : State → Prop where
  | init : Reach sk inp (init inp)
  | step {s s' : State} (a : Act) : Reach sk inp s → step sk s a = some s' → Reach sk inp s'

def run (sk : Skeleton) (s : State) (acts : List Act) : Option State := runFrom (step sk) s acts

/-- is the action one of the decoder goroutine's own steps (hand-offs are joint steps) -/
def Act.ofDecoder : Act → Bool
  | .decRead | .decFinish | .handReq | .handRes | .decAbort _ => true
  | _ => false

/-! ### what a message transport would deliver: the members of the decoded envelopes, in order -/

def reqsOf (l : List (Option Envelope)) : List Payload := l.filterMap (fun o => o.bind (·.req))
def ressOf (l : List (Option Envelope)) : List Payload := l.filterMap (fun o => o.bind (·.res))

/-- members the decoder has decoded and not yet handed over -/
def pendReq : Dec → List Payload
  | .handReq p _ => [p]
  | _ => []

def pendRes : Dec → List Payload
  | .handReq _ next => next.toList
  | .handRes q => [q]
  | _ => []

/-! ### the write adapters -/

/-- `encode(Message[T]{Request: &b})`; `other` stands for whatever a non-conforming literal
    would put into the second member -/
def writeReq (sk : Skeleton) (b : Payload) (other : Option Payload) : Envelope :=
  { req := some b, res := if sk.stEncodeRequestOnly = true then none else other }

def writeRes (sk : Skeleton) (b : Payload) (other : Option Payload) : Envelope :=
  { req := if sk.stEncodeResponseOnly = true then none else other, res := some b }

end Panrpc.St
