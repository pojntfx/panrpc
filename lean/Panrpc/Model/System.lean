/-
  Model/System.lean — M3: two endpoints of one healthy link, the message-correlation core of
  rpc/registry.go (stub `makeRPC`, request loop, response loop of `LinkMessage`).

  * Endpoints `E = A | B`, `peer`.  The link is *healthy*: the model has no fault action.  The
    transport may reorder and delay arbitrarily: frames in flight are multisets (`reqDeliver e i`
    / `resDeliver e i` consume ANY frame `i` of the buffer).
  * One constructor of `Act` per atomic step; every nondeterministic choice (which frame, which
    thread, what the application code returns, when it stalls, whether it calls the peer) is an
    argument of the action, so `step` is a total function `Skeleton → State → Act → Option State`.
  * The effects that depend on the source tree are selected by `Skeleton` facts:
      stubCallIdFresh            call id = fresh per call (else: one constant id)
      stubReceiveKeyIsCallId     `Receive(callID, …)`: the waiter is registered under the call's id
      stubRecvBeforeWrite        `Receive(callID)` before `writeRequest` (else the write comes first
                                 and registration is a later, separate step `callRegister`)
      stubRequestCallIsCallId / stubRequestFunctionIsName    contents of the request frame
      reqResolveGoDepth / reqHandlerGoDepth   number of `go` between the request loop and the
                                 resolver / `utils.Call`: 0 ⇒ the loop runs it inline (`reqLoopBusy`)
      reqCallViaUtilsCall        exactly one `utils.Call(function,args)` per request
      reqResponseCallIsReqCall   `Response{Call: req.Call}`
      reqOneResponsePerBranch    exactly one `writeResponse` per handler
      respPublishAsync           `go responseResolver.Publish(…)` (else the response loop blocks in
                                 Publish: `resLoopBusy`)
      reqLoopBlocksOnlyOnRead / respLoopBlocksOnlyOnRead   false ⇒ something in the loop body between two reads can wait
                                 (a semaphore, a lock, a channel): modelled as the strictest such limit, "the loop does not
                                 take the next frame until the goroutine it started for this one has finished"
      respPublishKeyIsResCall / respPublishValueIsResValue   key and payload of the Publish

  Source map (rpc/registry.go):
    callStart      makeRPC literal: `callID := uuid.NewString()`; `responseResolver.Receive(callID, ctx)`
                   (when `stubRecvBeforeWrite`), `go func(){ rr() … }` waiter
    callWrite      `writeRequest(b)` with `Request{Call: callID, Function: name, Args}`
    callRegister   (only if the source registers after writing)
    reqDeliver     request loop: `readRequest()`; `req.Unmarshal`; `go func(){ resolve …`
    handlerEnter   `go func(){ utils.Call(function, args)`       — user code entered (invocation log)
    handlerStall / handlerResume     user code blocks / continues
    handlerCallPeer                  user code calls a remote function of the peer (nested call)
    handlerNestedDone                that call returned
    handlerReturn  user code returns (value, err): ARBITRARY, chosen by the action
    respond        `writeResponse(Response{Call: req.Call, Value, Err})`
    resDeliver     response loop: `readResponse()`; `res.Unmarshal`; `go responseResolver.Publish(res.Call, …)`
    publish        Publish finds the entry for its key and hands the value to the waiter (M1 `rcvValue`);
                   the waiter then `Free`s the key
    publishDrop    Publish finds no entry for its key and returns
    callReturn     `case rawReturnValue := <-res` in the stub's final select
-/
import Panrpc.Go.Prim
import Panrpc.Skeleton

namespace Panrpc.Sys

inductive E where
  | A | B
  deriving DecidableEq, Repr, Inhabited

def peer : E → E
  | .A => .B
  | .B => .A

@[simp, grind =] theorem peer_peer (e : E) : peer (peer e) = e := by cases e <;> rfl
@[simp, grind .] theorem peer_ne (e : E) : peer e ≠ e := by cases e <;> simp [peer]
@[simp, grind .] theorem ne_peer (e : E) : e ≠ peer e := by cases e <;> simp [peer]
theorem eq_peer_of_ne {e e' : E} (h : e' ≠ e) : e' = peer e := by
  cases e <;> cases e' <;> simp_all [peer]

/-- point update of a per-endpoint value -/
def updE {α : Type} (f : E → α) (e : E) (v : α) : E → α :=
  fun x => if x = e then v else f x

/-- point update of a per-endpoint table -/
def upd2 {α : Type} (f : E → Nat → α) (e : E) (k : Nat) (v : α) : E → Nat → α :=
  fun x i => if x = e ∧ i = k then v else f x i

@[grind =] theorem updE_apply {α : Type} (f : E → α) (e x : E) (v : α) :
    updE f e v x = if x = e then v else f x := rfl

@[grind =] theorem upd2_apply {α : Type} (f : E → Nat → α) (e x : E) (k i : Nat) (v : α) :
    upd2 f e k v x i = if x = e ∧ i = k then v else f x i := rfl

@[simp] theorem updE_same {α : Type} (f : E → α) (e : E) (v : α) : updE f e v e = v := by
  simp [updE]

@[simp] theorem upd2_same {α : Type} (f : E → Nat → α) (e : E) (k : Nat) (v : α) :
    upd2 f e k v e k = v := by
  simp [upd2]

theorem updE_updE {α : Type} (f : E → α) (e : E) (v w : α) : updE (updE f e v) e w = updE f e w := by
  funext x; simp only [updE]; split <;> rfl

theorem updE_eq_self {α : Type} (f : E → α) (e : E) (v : α) (h : f e = v) : updE f e v = f := by
  funext x; simp only [updE]; split
  · rename_i hx; rw [hx, h]
  · rfl

theorem upd2_upd2 {α : Type} (f : E → Nat → α) (e : E) (k : Nat) (v w : α) :
    upd2 (upd2 f e k v) e k w = upd2 f e k w := by
  funext x i; simp only [upd2]; split <;> rfl

/-- program counter of a call thread (the stub literal of `makeRPC`) -/
inductive CPc where
  | absent
  | started        -- id chosen, nothing registered, nothing written (only if the source writes first)
  | registered     -- `Receive(callID)` done, waiter spawned, request not yet written
  | writtenUnreg   -- request written, not yet registered (only if the source writes first)
  | written        -- registered and request written: in the final `select`
  | returned
  deriving DecidableEq, Repr, Inhabited

/-- the request has been written -/
def CPc.wrote : CPc → Bool
  | .writtenUnreg | .written | .returned => true
  | _ => false

/-- the waiter goroutine of the call is inside `rr()` -/
def CPc.waiting : CPc → Bool
  | .registered | .written => true
  | _ => false

structure Call where
  pc     : CPc := .absent
  id     : Nat := 0                         -- the call id (`callID`)
  fn     : Nat := 0                         -- the remote function's name
  args   : Nat := 0                         -- the (abstract) argument tuple
  parent : Option (E × Nat) := none         -- the handler thread that issued it (nested calls)
  result : Option (Nat × Nat) := none       -- (value, err) the waiter was handed
  deriving DecidableEq, Repr, Inhabited

structure ReqFrame where
  call : Nat
  fn   : Nat
  args : Nat
  deriving DecidableEq, Repr, Inhabited

structure ResFrame where
  call  : Nat
  value : Nat
  err   : Nat
  deriving DecidableEq, Repr, Inhabited

/-- program counter of a resolver+handler thread -/
inductive HPc where
  | absent
  | resolving                     -- `findLocalFunctionToCallRecursively`
  | running                       -- inside user code
  | stalled                       -- inside user code, blocked for as long as it likes
  | waitingNested (t : Nat)       -- inside user code, inside a call to the peer (call thread `t`)
  | returned                      -- user code returned, response not yet written
  | finished
  deriving DecidableEq, Repr, Inhabited

/-- user code has been entered -/
def HPc.entered : HPc → Bool
  | .absent | .resolving => false
  | _ => true

structure Handler where
  pc  : HPc := .absent
  req : ReqFrame := ⟨0, 0, 0⟩
  ret : Option (Nat × Nat) := none
  deriving DecidableEq, Repr, Inhabited

/-- ghost: one record per entry of user code -/
structure Invocation where
  ep   : E
  h    : Nat                      -- the handler thread that made it
  call : Nat                      -- the request's call id
  fn   : Nat
  args : Nat
  ret  : Option (Nat × Nat)       -- filled in at return
  deriving DecidableEq, Repr, Inhabited

inductive Pub where
  | absent
  | pending (f : ResFrame)
  | done (f : ResFrame) (delivered : Bool)
  deriving DecidableEq, Repr, Inhabited

/-- ghost: one record per value handed to a waiter -/
structure Delivery where
  ep        : E
  pub       : Nat
  waiter    : Nat     -- call thread whose waiter got the value
  waiterId  : Nat     -- that call's id
  frameCall : Nat     -- call id in the response frame
  value     : Nat
  err       : Nat
  deriving DecidableEq, Repr, Inhabited

structure State where
  nextCall    : E → Nat
  calls       : E → Nat → Call
  pending     : E → Nat → Bool          -- the response resolver's key table
  reqs        : E → List ReqFrame       -- requests in flight TOWARDS the endpoint
  ress        : E → List ResFrame       -- responses in flight TOWARDS the endpoint
  nextHandler : E → Nat
  handlers    : E → Nat → Handler
  served      : E → Nat → Bool          -- ghost: a request carrying this call id has been consumed here
  servedBy    : E → Nat → Nat           -- ghost: … by this handler thread (meaningful where `served`)
  nextPub     : E → Nat
  pubs        : E → Nat → Pub
  reqLoopBusy : E → Option Nat          -- the request loop is running this handler thread inline
  resLoopBusy : E → Option Nat          -- the response loop is inside this Publish
  invocations : List Invocation         -- ghost
  deliveries  : List Delivery           -- ghost
  deriving Inhabited

def init : State :=
  { nextCall := fun _ => 0, calls := fun _ _ => {}, pending := fun _ _ => false,
    reqs := fun _ => [], ress := fun _ => [],
    nextHandler := fun _ => 0, handlers := fun _ _ => {}, served := fun _ _ => false, servedBy := fun _ _ => 0,
    nextPub := fun _ => 0, pubs := fun _ _ => .absent,
    reqLoopBusy := fun _ => none, resLoopBusy := fun _ => none,
    invocations := [], deliveries := [] }

inductive Act where
  | callStart (e : E) (fn args : Nat)
  | callWrite (e : E) (t : Nat)
  | callRegister (e : E) (t : Nat)
  | reqDeliver (e : E) (i : Nat)
  | handlerEnter (e : E) (h : Nat)
  | handlerStall (e : E) (h : Nat)
  | handlerResume (e : E) (h : Nat)
  | handlerCallPeer (e : E) (h : Nat) (fn args : Nat)
  | handlerNestedDone (e : E) (h : Nat)
  | handlerReturn (e : E) (h : Nat) (value err : Nat)
  | respond (e : E) (h : Nat)
  | resDeliver (e : E) (i : Nat)
  | publish (e : E) (p : Nat) (t : Nat)
  | publishDrop (e : E) (p : Nat)
  | callReturn (e : E) (t : Nat)
  deriving DecidableEq, Repr, Inhabited

/-- the key under which the stub registers its waiter in the response resolver -/
def recvKey (sk : Skeleton) (id : Nat) : Nat :=
  if sk.stubReceiveKeyIsCallId = true then id else 0

/-- the first steps of the stub literal: choose the call id and (if the source does it first)
    register it in the response resolver -/
def startCall (sk : Skeleton) (s : State) (e : E) (fn args : Nat) (parent : Option (E × Nat)) : State :=
  let t := s.nextCall e
  let id := if sk.stubCallIdFresh = true then t else 0
  { s with
    nextCall := updE s.nextCall e (t + 1),
    calls := upd2 s.calls e t
      { pc := if sk.stubRecvBeforeWrite = true then .registered else .started,
        id := id, fn := fn, args := args, parent := parent, result := none },
    pending := if sk.stubRecvBeforeWrite = true then upd2 s.pending e (recvKey sk id) true else s.pending }

/-- the request frame the stub writes -/
def mkReq (sk : Skeleton) (c : Call) : ReqFrame :=
  { call := if sk.stubRequestCallIsCallId = true then c.id else 0,
    fn := if sk.stubRequestFunctionIsName = true then c.fn else 0,
    args := c.args }

/-- the response frame a handler thread writes -/
def mkRes (sk : Skeleton) (req : ReqFrame) (r : Nat × Nat) : ResFrame :=
  { call := if sk.reqResponseCallIsReqCall = true then req.call else 0, value := r.1, err := r.2 }

/-- key / value of the Publish the response loop spawns -/
def pubKey (sk : Skeleton) (f : ResFrame) : Nat :=
  if sk.respPublishKeyIsResCall = true then f.call else 0

def pubVal (sk : Skeleton) (f : ResFrame) : Nat :=
  if sk.respPublishValueIsResValue = true then f.value else 0

/-- the invocation record(s) made when the handler thread enters user code -/
def mkInv (sk : Skeleton) (e : E) (h : Nat) (req : ReqFrame) : List Invocation :=
  let r : Invocation := { ep := e, h := h, call := req.call, fn := req.fn, args := req.args, ret := none }
  if sk.reqCallViaUtilsCall = true then [r] else [r, r]

/-- fill in the return of the invocation(s) of handler thread `h` of `e` -/
def setRet (e : E) (h : Nat) (v : Nat × Nat) (r : Invocation) : Invocation :=
  if r.ep = e ∧ r.h = h then { r with ret := some v } else r

/-- the loop stops being busy with thread `x` -/
def release (b : Option Nat) (x : Nat) : Option Nat :=
  if b = some x then none else b

/-- The write wrapper lets a request through.  The wrappers of the current source never wait
    (`ioWrappersNonBlocking`); a window / semaphore / queue in one of them is modelled as the strictest such
    limit: one written, unanswered request per endpoint. -/
def windowFree (sk : Skeleton) (s : State) (e : E) : Bool :=
  sk.ioWrappersNonBlocking ||
    (List.range (s.nextCall e)).all (fun t => decide ((s.calls e t).pc ≠ .written ∧ (s.calls e t).pc ≠ .writtenUnreg))

def step (sk : Skeleton) (s : State) : Act → Option State
  | .callStart e fn args => some (startCall sk s e fn args none)
  | .callWrite e t =>
    let c := s.calls e t
    if windowFree sk s e = false then none else
    match c.pc with
    | .registered =>
      some { s with calls := upd2 s.calls e t { c with pc := .written },
                    reqs := updE s.reqs (peer e) (s.reqs (peer e) ++ [mkReq sk c]) }
    | .started =>
      some { s with calls := upd2 s.calls e t { c with pc := .writtenUnreg },
                    reqs := updE s.reqs (peer e) (s.reqs (peer e) ++ [mkReq sk c]) }
    | _ => none
  | .callRegister e t =>
    let c := s.calls e t
    match c.pc with
    | .writtenUnreg =>
      some { s with calls := upd2 s.calls e t { c with pc := .written },
                    pending := upd2 s.pending e (recvKey sk c.id) true }
    | _ => none
  | .reqDeliver e i =>
    if s.reqLoopBusy e = none then
      match (s.reqs e)[i]? with
      | some f =>
        let h := s.nextHandler e
        some { s with reqs := updE s.reqs e ((s.reqs e).eraseIdx i),
                      nextHandler := updE s.nextHandler e (h + 1),
                      handlers := upd2 s.handlers e h { pc := .resolving, req := f, ret := none },
                      served := upd2 s.served e f.call true,
                      servedBy := upd2 s.servedBy e f.call h,
                      reqLoopBusy := updE s.reqLoopBusy e
                        (if sk.reqResolveGoDepth = 0 ∨ sk.reqHandlerGoDepth = 0 ∨ sk.reqLoopBlocksOnlyOnRead = false
                         then some h else none) }
      | none => none
    else none
  | .handlerEnter e h =>
    let hd := s.handlers e h
    match hd.pc with
    | .resolving =>
      some { s with handlers := upd2 s.handlers e h { hd with pc := .running },
                    invocations := s.invocations ++ mkInv sk e h hd.req,
                    reqLoopBusy := if sk.reqHandlerGoDepth = 0 ∨ sk.reqLoopBlocksOnlyOnRead = false then s.reqLoopBusy
                                   else updE s.reqLoopBusy e (release (s.reqLoopBusy e) h) }
    | _ => none
  | .handlerStall e h =>
    let hd := s.handlers e h
    match hd.pc with
    | .running => some { s with handlers := upd2 s.handlers e h { hd with pc := .stalled } }
    | _ => none
  | .handlerResume e h =>
    let hd := s.handlers e h
    match hd.pc with
    | .stalled => some { s with handlers := upd2 s.handlers e h { hd with pc := .running } }
    | _ => none
  | .handlerCallPeer e h fn args =>
    let hd := s.handlers e h
    match hd.pc with
    | .running =>
      let s1 := startCall sk s e fn args (some (e, h))
      some { s1 with handlers := upd2 s1.handlers e h { hd with pc := .waitingNested (s.nextCall e) } }
    | _ => none
  | .handlerNestedDone e h =>
    let hd := s.handlers e h
    match hd.pc with
    | .waitingNested t =>
      if (s.calls e t).pc = .returned then
        some { s with handlers := upd2 s.handlers e h { hd with pc := .running } }
      else none
    | _ => none
  | .handlerReturn e h value err =>
    let hd := s.handlers e h
    match hd.pc with
    | .running =>
      some { s with handlers := upd2 s.handlers e h { hd with pc := .returned, ret := some (value, err) },
                    invocations := s.invocations.map (setRet e h (value, err)) }
    | _ => none
  | .respond e h =>
    let hd := s.handlers e h
    match hd.pc, hd.ret with
    | .returned, some r =>
      some { s with handlers := upd2 s.handlers e h
                      { hd with pc := if sk.reqOneResponsePerBranch = true then .finished else .returned },
                    ress := updE s.ress (peer e) (s.ress (peer e) ++ [mkRes sk hd.req r]),
                    reqLoopBusy := updE s.reqLoopBusy e (release (s.reqLoopBusy e) h) }
    | _, _ => none
  | .resDeliver e i =>
    if s.resLoopBusy e = none then
      match (s.ress e)[i]? with
      | some f =>
        let p := s.nextPub e
        some { s with ress := updE s.ress e ((s.ress e).eraseIdx i),
                      nextPub := updE s.nextPub e (p + 1),
                      pubs := upd2 s.pubs e p (.pending f),
                      resLoopBusy := updE s.resLoopBusy e
                        (if sk.respPublishAsync = true ∧ sk.respLoopBlocksOnlyOnRead = true then none else some p) }
      | none => none
    else none
  | .publish e p t =>
    match s.pubs e p with
    | .pending f =>
      let c := s.calls e t
      if s.pending e (pubKey sk f) = true ∧ c.id = pubKey sk f ∧ c.pc.waiting = true ∧ c.result = none then
        some { s with calls := upd2 s.calls e t { c with result := some (pubVal sk f, f.err) },
                      pending := upd2 s.pending e (pubKey sk f) false,
                      pubs := upd2 s.pubs e p (.done f true),
                      resLoopBusy := updE s.resLoopBusy e (release (s.resLoopBusy e) p),
                      deliveries := s.deliveries ++
                        [{ ep := e, pub := p, waiter := t, waiterId := c.id, frameCall := f.call,
                           value := pubVal sk f, err := f.err }] }
      else none
    | _ => none
  | .publishDrop e p =>
    match s.pubs e p with
    | .pending f =>
      if s.pending e (pubKey sk f) = false then
        some { s with pubs := upd2 s.pubs e p (.done f false),
                      resLoopBusy := updE s.resLoopBusy e (release (s.resLoopBusy e) p) }
      else none
    | _ => none
  | .callReturn e t =>
    let c := s.calls e t
    match c.pc with
    | .written =>
      if c.result.isSome = true then
        some { s with calls := upd2 s.calls e t { c with pc := .returned } }
      else none
    | _ => none

inductive Reach (sk : Skeleton) : State → Prop where
  | init : Reach sk init
  | step {s s' : State} (a : Act) : Reach sk s → step sk s a = some s' → Reach sk s'

def run (sk : Skeleton) (s : State) (acts : List Act) : Option State := runFrom (step sk) s acts

theorem run_nil (sk : Skeleton) (s : State) : run sk s [] = some s := rfl

theorem run_cons (sk : Skeleton) (s : State) (a : Act) (as : List Act) :
    run sk s (a :: as) = (step sk s a).bind fun s' => run sk s' as :=
  runFrom_cons ..

theorem run_append (sk : Skeleton) (s : State) (as bs : List Act) :
    run sk s (as ++ bs) = (run sk s as).bind fun s' => run sk s' bs :=
  runFrom_append ..

theorem reach_of_run (sk : Skeleton) {s s' : State} (acts : List Act)
    (h : Reach sk s) (hr : run sk s acts = some s') : Reach sk s' :=
  runFrom_invariant (fun _ a _ h hs => Reach.step a h hs) acts h hr

/-! ### a decidable test for "no thread of the link can take a step"

  `candidates s` lists one representative of every action other than `callStart` (a new top-level
  call of the application) whose thread / frame index lies inside the tables of `s`; `stuck sk s`
  says none of them is enabled.  (Completeness of the list for reachable states:
  Lemmas/SystemStuck.lean.) -/

def candidatesAt (s : State) (e : E) : List Act :=
  (List.range (s.nextCall e)).flatMap (fun t => [Act.callWrite e t, .callRegister e t, .callReturn e t]) ++
  (List.range (s.reqs e).length).map (Act.reqDeliver e) ++
  (List.range (s.nextHandler e)).flatMap (fun h =>
    [Act.handlerEnter e h, .handlerStall e h, .handlerResume e h, .handlerCallPeer e h 0 0,
     .handlerNestedDone e h, .handlerReturn e h 0 0, .respond e h]) ++
  (List.range (s.ress e).length).map (Act.resDeliver e) ++
  (List.range (s.nextPub e)).flatMap (fun p =>
    Act.publishDrop e p :: (List.range (s.nextCall e)).map (Act.publish e p))

def candidates (s : State) : List Act := candidatesAt s .A ++ candidatesAt s .B

/-- no action other than starting a new top-level call is enabled -/
def stuck (sk : Skeleton) (s : State) : Bool :=
  (candidates s).all fun a => (step sk s a).isNone

end Panrpc.Sys
