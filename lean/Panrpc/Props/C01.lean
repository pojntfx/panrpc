/-
  Props/C01.lean — "While a link is healthy, every call made through a remote function causes
  exactly one invocation of the corresponding exposed function on the peer, with that call's
  arguments, and returns exactly the value and error that invocation produced.  This holds for
  any number of calls in flight at once in both directions and for any order or delay in which
  the transport delivers requests and responses; no call ever observes another call's response."

  Model: M3 (Model/System.lean): two endpoints, unboundedly many call / handler / publisher
  threads on both sides, request and response buffers that are multisets (any frame may be
  delivered next), handlers that stall, call back and return ARBITRARY values.  `Reach` is over
  every action sequence, so the theorems hold for all sets of concurrent calls, all delivery
  orders and delays, and all goroutine schedules.  The link is healthy: M3 has no fault action.
  The property theorems are about `Skeleton.current` (the witness theorems say in their statements which other
  skeleton they are about), i.e. the facts regenerated from /repo's source.
-/
import Panrpc.Lemmas.SystemRun
import Panrpc.Lemmas.SystemStuck
import Panrpc.Generated.Current

namespace Panrpc.Sys

/-! ### the source facts these theorems rest on (checked against the regenerated skeleton) -/

theorem cur_facts : Facts Skeleton.current := by constructor <;> decide

theorem cur_async : Async Skeleton.current := by constructor <;> decide

theorem cur_recv_before_write : Skeleton.current.stubRecvBeforeWrite = true := by decide

/-! ### C01 -/

/-- Distinct call threads of one endpoint have distinct call ids; a key of the pending table is
    the id of exactly one call thread, which is waiting and has not been handed a result. -/
theorem C01_ids_unique : ∀ s, Reach Skeleton.current s →
    (∀ e t t', (s.calls e t).pc ≠ .absent → (s.calls e t').pc ≠ .absent →
      (s.calls e t).id = (s.calls e t').id → t = t') ∧
    (∀ e k, s.pending e k = true →
      ∃ t, (s.calls e t).pc.waiting = true ∧ (s.calls e t).id = k ∧ (s.calls e t).result = none ∧
        ∀ t', (s.calls e t').pc ≠ .absent → (s.calls e t').id = k → t' = t) :=
  ids_unique_of _ cur_facts

/-- Every request frame in flight, and every request frame ever consumed (it lives on in the
    handler thread spawned for it), carries the id, function and arguments of exactly the call
    thread of the peer that wrote it; per call there is at most one frame: ids in flight are
    pairwise distinct, an id in flight has never been consumed, and no two handler threads were
    spawned for the same id. -/
theorem C01_request_provenance : ∀ s, Reach Skeleton.current s →
    (∀ e f, f ∈ s.reqs e →
      ∃ t, (s.calls (peer e) t).pc.wrote = true ∧ (s.calls (peer e) t).id = f.call ∧
        (s.calls (peer e) t).fn = f.fn ∧ (s.calls (peer e) t).args = f.args) ∧
    (∀ e h, (s.handlers e h).pc ≠ .absent →
      ∃ t, (s.calls (peer e) t).pc.wrote = true ∧ (s.calls (peer e) t).id = (s.handlers e h).req.call ∧
        (s.calls (peer e) t).fn = (s.handlers e h).req.fn ∧ (s.calls (peer e) t).args = (s.handlers e h).req.args) ∧
    (∀ e, ((s.reqs e).map ReqFrame.call).Nodup) ∧
    (∀ e f h, f ∈ s.reqs e → (s.handlers e h).pc ≠ .absent → (s.handlers e h).req.call ≠ f.call) ∧
    (∀ e h h', (s.handlers e h).pc ≠ .absent → (s.handlers e h').pc ≠ .absent →
      (s.handlers e h).req.call = (s.handlers e h').req.call → h = h') :=
  request_provenance_of _ cur_facts

/-- For every endpoint and call id there is at most one invocation record — however often and in
    whatever order frames are delivered — and exactly one once the call has returned. -/
theorem C01_at_most_one_invocation : ∀ s, Reach Skeleton.current s →
    (∀ e k, invCountCall s.invocations e k ≤ 1) ∧
    (∀ e t, (s.calls e t).pc = .returned → invCountCall s.invocations (peer e) (s.calls e t).id = 1) :=
  at_most_one_invocation_of _ cur_facts

/-- Every response frame — in flight, or carried by a publisher — was built by the handler thread
    spawned for the request with that id (there is exactly one), from that handler's return. -/
theorem C01_response_provenance : ∀ s, Reach Skeleton.current s →
    ∀ e f, (f ∈ s.ress e ∨ ∃ p, (s.pubs e p).frame = some f) →
      ∃ h, (s.handlers (peer e) h).req.call = f.call ∧ (s.handlers (peer e) h).pc = .finished ∧
        (s.handlers (peer e) h).ret = some (f.value, f.err) ∧
        ∀ h', (s.handlers (peer e) h').pc ≠ .absent → (s.handlers (peer e) h').req.call = f.call → h' = h :=
  response_provenance_of _ cur_facts

/-- THE property.  If the waiter of call thread `t` of endpoint `e` was handed `(v, err)` — in
    particular if the call returned with it — then on the peer there is exactly one invocation
    record for that call's id; it carries the call's function and arguments, and `(v, err)` is
    what that invocation returned. -/
theorem C01_result_is_own : ∀ s, Reach Skeleton.current s → ∀ e t v err,
    (s.calls e t).result = some (v, err) →
    ∃ r, r ∈ s.invocations ∧ r.ep = peer e ∧ r.call = (s.calls e t).id ∧
      r.fn = (s.calls e t).fn ∧ r.args = (s.calls e t).args ∧ r.ret = some (v, err) ∧
      (∀ r', r' ∈ s.invocations → r'.ep = peer e → r'.call = (s.calls e t).id → r' = r) ∧
      invCountCall s.invocations (peer e) (s.calls e t).id = 1 :=
  result_is_own_of _ cur_facts

/-- … and a call that returned did get a result (so the above applies to every returned call). -/
theorem C01_returned_has_result : ∀ s, Reach Skeleton.current s → ∀ e t,
    (s.calls e t).pc = .returned → ∃ v err, (s.calls e t).result = some (v, err) :=
  returned_has_result_of _ cur_facts

/-- No waiter is ever handed a value from a response frame that carries another call's id
    (stated over the ghost delivery log, which records every hand-off). -/
theorem C01_no_foreign_response : ∀ s, Reach Skeleton.current s →
    ∀ d, d ∈ s.deliveries → d.frameCall = d.waiterId :=
  no_foreign_response_of _ cur_facts

/- `C01_can_complete` at full strength — every call thread that is `registered` OR `written`, in
   every reachable state, handlers waiting in nested calls to any depth included — is in
   Props/C01Live.lean (progress invariant: Lemmas/SystemProgress.lean).  The theorem below is
   the special case of a request not yet written; it additionally says that the
   handler's return value can be chosen freely and that no existing handler thread is used. -/

/-- From every reachable state, every call that has been started but whose request is not yet
    written can still be completed, with whatever `(v, err)` its handler returns, by 8 further
    steps, none of them a step of a handler thread that already exists (so stalled handlers do
    not matter) — the system is never trapped. -/
theorem C01_can_complete_partial : ∀ s, Reach Skeleton.current s → ∀ e t,
    (s.calls e t).pc = .registered → ∀ v err,
    ∃ acts s', run Skeleton.current s acts = some s' ∧ acts.length = 8 ∧
      (s'.calls e t).pc = .returned ∧ (s'.calls e t).result = some (v, err) ∧
      (∀ a, a ∈ acts → ∀ x h, a.handler? = some (x, h) → s.nextHandler x ≤ h) :=
  fun _ => registered_can_complete _ cur_facts cur_async cur_recv_before_write

/-! ### non-vacuity -/

/-- two concurrent calls A→B; the requests overtake each other, the responses are delivered in
    reverse order; each call gets its own handler's result -/
example : ∃ acts, (run Skeleton.current init acts).map
    (fun s => decide ((s.calls .A 0).pc = .returned ∧ (s.calls .A 0).result = some (100, 0) ∧
                      (s.calls .A 1).pc = .returned ∧ (s.calls .A 1).result = some (200, 7) ∧
                      s.invocations.length = 2 ∧ s.deliveries.length = 2)) = some true :=
  ⟨[.callStart .A 10 1, .callStart .A 20 2, .callWrite .A 0, .callWrite .A 1,
    .reqDeliver .B 1, .reqDeliver .B 0,
    .handlerEnter .B 0, .handlerEnter .B 1,
    .handlerReturn .B 0 200 7, .handlerReturn .B 1 100 0,
    .respond .B 1, .respond .B 0,
    .resDeliver .A 1, .resDeliver .A 0,
    .publish .A 0 1, .publish .A 1 0,
    .callReturn .A 1, .callReturn .A 0], rfl⟩

/-- calls in flight in both directions at once, one of them nested inside a handler -/
example : ∃ acts, (run Skeleton.current init acts).map
    (fun s => decide ((s.calls .A 0).result = some (5, 0) ∧ (s.calls .B 0).result = some (6, 0) ∧
                      (s.calls .B 1).result = some (9, 1))) = some true :=
  ⟨[.callStart .A 1 1, .callStart .B 2 2, .callWrite .B 0, .callWrite .A 0,
    .reqDeliver .A 0, .reqDeliver .B 0, .handlerEnter .B 0, .handlerEnter .A 0,
    .handlerCallPeer .B 0 3 3, .callWrite .B 1, .reqDeliver .A 0, .handlerEnter .A 1,
    .handlerReturn .A 1 9 1, .handlerReturn .A 0 6 0, .respond .A 0, .respond .A 1,
    .resDeliver .B 1, .resDeliver .B 0, .publish .B 0 1, .publish .B 1 0,
    .callReturn .B 1, .handlerNestedDone .B 0, .handlerReturn .B 0 5 0, .respond .B 0,
    .resDeliver .A 0, .publish .A 0 0, .callReturn .A 0, .callReturn .B 0], rfl⟩

/-! ### the facts are load-bearing -/

/-- If the stub wrote the request before registering the call (`Receive` after `writeRequest`),
    the response could overtake the registration and be dropped: the call is then registered,
    waiting, and nothing in the system can move any more (lost wake-up). -/
theorem C01_needs_recv_before_write :
    ∃ acts, (run { Skeleton.current with stubRecvBeforeWrite := false } init acts).map
      (fun s => decide ((s.calls .A 0).pc = .written ∧ s.pending .A 0 = true ∧ (s.calls .A 0).result = none) &&
                stuck { Skeleton.current with stubRecvBeforeWrite := false } s) = some true :=
  ⟨[.callStart .A 1 1, .callWrite .A 0, .reqDeliver .B 0, .handlerEnter .B 0, .handlerReturn .B 0 5 0,
    .respond .B 0, .resDeliver .A 0, .publishDrop .A 0, .callRegister .A 0], rfl⟩

/-- If call ids were not fresh per call (one constant id), a call would be handed another call's
    result. -/
theorem C01_needs_fresh_ids :
    ∃ acts, (run { Skeleton.current with stubCallIdFresh := false } init acts).map
      (fun s => decide ((s.calls .A 1).fn = 20 ∧ (s.calls .A 1).result = some (111, 0) ∧
                        s.invocations.map (fun r => (r.fn, r.ret)) = [(10, some (111, 0))])) = some true :=
  ⟨[.callStart .A 10 1, .callWrite .A 0, .callStart .A 20 2, .reqDeliver .B 0, .handlerEnter .B 0,
    .handlerReturn .B 0 111 0, .respond .B 0, .resDeliver .A 0, .publish .A 0 1], rfl⟩

/-- "…exactly the value and error that invocation produced": the response loop builds the caller's error from
    the frame's `err` member VERBATIM (trimmed only to decide whether there is an error at all) and per
    frame (checked against the regenerated skeleton). -/
theorem C01_error_text_verbatim :
    Skeleton.current.respErrIffTrimNonEmpty = true ∧ Skeleton.current.respErrFreshPerFrame = true := by decide

/-- M3's `handlerReturn v e` puts the handler's value and error into the response as they are. `utils.Call` hands back
    exactly what the function returned — `out = fn.Call(in)` is the only write to its result list (checked against the
    regenerated skeleton; `utils/call.go` is not among this property's anchors, yet every handler's and every closure's
    results pass through it). A normalisation there (e.g. a zero-valued struct error such as `context.DeadlineExceeded`
    turned into nil) would give a caller a result its handler never produced. -/
theorem C01_results_pass_through_utils_call :
    Skeleton.current.ucResultsUntouched = true ∧ Skeleton.current.reqCallViaUtilsCall = true := by decide

/-- A call that passes a function gets back what ITS function produced: the id under which the function is registered is
    fresh (a UUID drawn per registration — not, say, the table's current size, which repeats as soon as an earlier call
    has returned while a later one is pending), and what is stored under it is that function's wrapper itself (checked
    against the regenerated skeleton; `rpc/manager.go` is outside this property's anchors). -/
theorem C01_closure_ids_never_collide :
    Skeleton.current.clIdFresh = true ∧ Skeleton.current.clStoresCreatedClosure = true ∧ Skeleton.current.clInsertUnderLock = true := by decide

/-- `Receive` fails only on a closed table — a context that is done already is registered and reported through the
    receive function, to that one caller — and the stub panics only on failures of the link (both checked against the
    regenerated skeleton; `utils/broadcaster.go` is outside this property's anchors). Otherwise a handler that invokes a
    callable (or makes any call) with a context of its own that has expired ends the link, and every other call in
    flight gets `closed` instead of its handler's result. -/
theorem C01_one_calls_expired_context_fails_no_other_call :
    Skeleton.current.bcReceiveErrorsOnlyClosed = true ∧ Skeleton.current.panicSitesCanonical = true := by decide

end Panrpc.Sys

#print axioms Panrpc.Sys.C01_ids_unique
#print axioms Panrpc.Sys.C01_request_provenance
#print axioms Panrpc.Sys.C01_at_most_one_invocation
#print axioms Panrpc.Sys.C01_response_provenance
#print axioms Panrpc.Sys.C01_result_is_own
#print axioms Panrpc.Sys.C01_returned_has_result
#print axioms Panrpc.Sys.C01_no_foreign_response
#print axioms Panrpc.Sys.C01_can_complete_partial
#print axioms Panrpc.Sys.C01_needs_recv_before_write
#print axioms Panrpc.Sys.C01_needs_fresh_ids
#print axioms Panrpc.Sys.C01_error_text_verbatim
#print axioms Panrpc.Sys.C01_results_pass_through_utils_call
#print axioms Panrpc.Sys.C01_closure_ids_never_collide
#print axioms Panrpc.Sys.C01_one_calls_expired_context_fails_no_other_call
