/-
  Props/C01Live.lean — the liveness half of C01 at full strength: "… returns exactly the value
  and error that invocation produced" is not vacuously true of a system that never answers.

  Model: M3 (Model/System.lean).  `C01_can_complete` extends `C01_can_complete_partial`
  (Props/C01.lean, calls that are `registered`): it covers every call thread that is in flight
  — `registered` or `written` — in every reachable state, whatever else is going on in it
  (other calls in both directions, frames in flight, stalled handlers), and handlers that are
  themselves waiting for nested calls, to any depth.

  `Unblocked s n e t` (Lemmas/SystemProgress.lean, decidable) is the one thing user code can
  withhold: the handler thread serving `(e,t)`, if it exists already, is not stalled, and if it
  waits for a nested call then that call is unblocked at depth `n - 1`.  The hypothesis is
  needed: `C01_stalled_handler_blocks`.

  All theorems are about `Skeleton.current`, i.e. the facts regenerated from /repo's source.
-/
import Panrpc.Lemmas.SystemProgress
import Panrpc.Props.C01

namespace Panrpc.Sys

/-- The progress invariant, in words: in every reachable state, a call thread whose request has
    been written and whose waiter has not been handed a result is in exactly one of these places —
    (i) its request frame is in flight to the peer (and no handler thread exists for it);
    (ii) the peer has spawned the handler thread for it, which has not yet written the response;
    (iii) that handler thread has finished and the response frame is in flight to the caller, or
    (iv) one of the caller's publishers holds the response and the call is still registered in
         the response resolver's table —
    and neither loop is ever busy, so in (i), (iii), (iv) the next step is enabled. -/
theorem C01_progress_invariant : ∀ s, Reach Skeleton.current s → ∀ e t,
    (s.calls e t).pc = .written → (s.calls e t).result = none →
    s.pending e t = true ∧ s.reqLoopBusy (peer e) = none ∧ s.resLoopBusy e = none ∧
    ((s.served (peer e) t = false ∧ t ∈ (s.reqs (peer e)).map ReqFrame.call) ∨
     (s.served (peer e) t = true ∧ (s.handlers (peer e) (s.servedBy (peer e) t)).req.call = t ∧
      (s.handlers (peer e) (s.servedBy (peer e) t)).pc ≠ .absent ∧
      ((s.handlers (peer e) (s.servedBy (peer e) t)).pc ≠ .finished ∨
       t ∈ (s.ress e).map ResFrame.call ∨ ∃ p, (s.pubs e p).holds t))) := by
  intro s hr e t hpc hres
  have hinv := reach_all _ cur_facts hr
  have hp := reach_pinv _ cur_facts cur_recv_before_write hr
  have hl := reach_linv _ cur_async hr
  refine ⟨hinv.c.wait_pend e t (by rw [hpc]; rfl) hres, hl.req_free _, hl.res_free _, ?_⟩
  cases hsv : s.served (peer e) t with
  | false => exact Or.inl ⟨rfl, hp.req_loc e t (by rw [hpc]; rfl) hsv⟩
  | true =>
    obtain ⟨hne, hq⟩ := hinv.r.served_h (peer e) t hsv
    refine Or.inr ⟨rfl, hq, hne, ?_⟩
    by_cases hfin : (s.handlers (peer e) (s.servedBy (peer e) t)).pc = .finished
    · exact Or.inr (hp.res_loc e t hpc hres hsv hfin)
    · exact Or.inl hfin

/-- A handler thread that is inside a nested call waits for a call thread of its own endpoint
    that has been started (and is therefore itself covered by `C01_can_complete`). -/
theorem C01_nested_call_exists : ∀ s, Reach Skeleton.current s → ∀ x h t',
    (s.handlers x h).pc = .waitingNested t' →
    (s.calls x t').pc = .registered ∨ (s.calls x t').pc = .written ∨ (s.calls x t').pc = .returned := by
  intro s hr x h t' hpc
  exact or_assoc.mp (((reach_pinv _ cur_facts cur_recv_before_write hr).nested x h t' hpc).imp_left CPc.waiting_iff.mp)

/-- C01, liveness.  From every reachable state, every call thread that is in flight (`registered`
    or `written`; with or without a result already handed to its waiter) and unblocked at nesting
    depth `n` can still return: there is an explicit continuation of at most `8 + 6·n` steps after
    which it has returned; no step of the continuation belongs to a handler thread that is stalled
    in `s`, and every stalled handler thread is left exactly as it was.  (That the value it returns
    with is its own handler's: `C01_result_is_own`, which holds in the state reached.) -/
theorem C01_can_complete : ∀ s, Reach Skeleton.current s → ∀ e t n,
    ((s.calls e t).pc = .registered ∨ (s.calls e t).pc = .written) → Unblocked s n e t →
    ∃ acts s', run Skeleton.current s acts = some s' ∧ acts.length ≤ 8 + 6 * n ∧
      (s'.calls e t).pc = .returned ∧
      (∀ a, a ∈ acts → ∀ x h, a.handler? = some (x, h) → (s.handlers x h).pc ≠ .stalled) ∧
      (∀ x h, (s.handlers x h).pc = .stalled → s'.handlers x h = s.handlers x h) :=
  fun _ => can_complete _ cur_facts cur_async cur_recv_before_write

/-- The case without nesting, spelled out: if no handler thread exists yet for the call, or it
    exists and is resolving, running, returned or finished (anything but stalled or inside a
    nested call), the call returns within 8 steps. -/
theorem C01_can_complete_unnested : ∀ s, Reach Skeleton.current s → ∀ e t,
    ((s.calls e t).pc = .registered ∨ (s.calls e t).pc = .written) →
    (s.served (peer e) t = true →
      (s.handlers (peer e) (s.servedBy (peer e) t)).pc ≠ .stalled ∧
      ∀ t', (s.handlers (peer e) (s.servedBy (peer e) t)).pc ≠ .waitingNested t') →
    ∃ acts s', run Skeleton.current s acts = some s' ∧ acts.length ≤ 8 ∧ (s'.calls e t).pc = .returned ∧
      (∀ a, a ∈ acts → ∀ x h, a.handler? = some (x, h) → (s.handlers x h).pc ≠ .stalled) ∧
      (∀ x h, (s.handlers x h).pc = .stalled → s'.handlers x h = s.handlers x h) := by
  intro s hr e t hw hh
  exact C01_can_complete s hr e t 0 hw (unblocked_zero.mpr hh)

/-- The hypothesis of `C01_can_complete` is needed: while the handler thread serving a call is
    stalled, no run that leaves that thread alone (contains no `handlerResume` of it) makes the
    call return. -/
theorem C01_stalled_handler_blocks : ∀ s, Reach Skeleton.current s → ∀ e t h,
    (s.handlers (peer e) h).pc = .stalled → (s.handlers (peer e) h).req.call = t →
    ∀ acts s', Act.handlerResume (peer e) h ∉ acts → run Skeleton.current s acts = some s' →
      (s'.calls e t).pc ≠ .returned ∧ (s'.handlers (peer e) h).pc = .stalled :=
  fun _ hr e t h hst hq acts _ hna hrun => stalled_blocks _ cur_facts e t h acts hr hst hq hna hrun

/-! ### non-vacuity -/

/-- the actions that bring the system into: call 0 of A written, its handler thread on B inside a
    nested call to A (call 0 of B, request in flight) -/
def exNested : List Act :=
  [.callStart .A 1 1, .callWrite .A 0, .reqDeliver .B 0, .handlerEnter .B 0,
   .handlerCallPeer .B 0 2 2, .callWrite .B 0]

/-- call 0 of A is `written`, without result, and unblocked at depth exactly 1 … -/
example : (run Skeleton.current init exNested).map
    (fun s => decide ((s.calls .A 0).pc = .written ∧ (s.calls .A 0).result = none ∧
      (s.handlers .B 0).pc = .waitingNested 0 ∧ (s.calls .B 0).pc = .written ∧
      Unblocked s 1 .A 0 ∧ ¬ Unblocked s 0 .A 0 ∧ Unblocked s 0 .B 0)) = some true := rfl

/-- … and an explicit continuation (14 = 8 + 6·1 steps would be allowed; this one needs 13) -/
example : (run Skeleton.current init (exNested ++
    [.reqDeliver .A 0, .handlerEnter .A 0, .handlerReturn .A 0 7 0, .respond .A 0, .resDeliver .B 0,
     .publish .B 0 0, .callReturn .B 0, .handlerNestedDone .B 0, .handlerReturn .B 0 9 0, .respond .B 0,
     .resDeliver .A 0, .publish .A 0 0, .callReturn .A 0])).map
    (fun s => decide ((s.calls .A 0).pc = .returned ∧ (s.calls .A 0).result = some (9, 0))) = some true :=
  rfl

/-- the same state with the inner handler stalled: call 0 of A is unblocked at no depth ≤ 3, call
    0 of B (whose handler it is) neither -/
example : (run Skeleton.current init (exNested ++ [.reqDeliver .A 0, .handlerEnter .A 0, .handlerStall .A 0])).map
    (fun s => decide ((s.handlers .A 0).pc = .stalled ∧
      ¬ Unblocked s 0 .A 0 ∧ ¬ Unblocked s 1 .A 0 ∧ ¬ Unblocked s 2 .A 0 ∧ ¬ Unblocked s 3 .A 0 ∧
      ¬ Unblocked s 0 .B 0 ∧ ¬ Unblocked s 1 .B 0)) = some true := rfl

/-- every stage of the progress invariant occurs: request in flight / handler resolving /
    running / returned / response in flight / publisher holds it -/
example : (run Skeleton.current init [.callStart .A 1 1, .callWrite .A 0]).map
    (fun s => decide (s.served .B 0 = false ∧ 0 ∈ (s.reqs .B).map ReqFrame.call)) = some true := rfl
example : (run Skeleton.current init [.callStart .A 1 1, .callWrite .A 0, .reqDeliver .B 0,
      .handlerEnter .B 0, .handlerReturn .B 0 5 0, .respond .B 0]).map
    (fun s => decide (s.served .B 0 = true ∧ (s.handlers .B 0).pc = .finished ∧
      0 ∈ (s.ress .A).map ResFrame.call)) = some true := rfl
example : (run Skeleton.current init [.callStart .A 1 1, .callWrite .A 0, .reqDeliver .B 0,
      .handlerEnter .B 0, .handlerReturn .B 0 5 0, .respond .B 0, .resDeliver .A 0]).map
    (fun s => decide (s.pubs .A 0 = .pending ⟨0, 5, 0⟩ ∧ s.pending .A 0 = true ∧ s.ress .A = [])) = some true :=
  rfl

end Panrpc.Sys

#print axioms Panrpc.Sys.C01_progress_invariant
#print axioms Panrpc.Sys.C01_nested_call_exists
#print axioms Panrpc.Sys.C01_can_complete
#print axioms Panrpc.Sys.C01_can_complete_unnested
#print axioms Panrpc.Sys.C01_stalled_handler_blocks
