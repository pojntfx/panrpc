/-
  Props/C02.lean — "A handler or remote closure that is still running - blocked, slow, or itself
  issuing calls to the peer over the same link - never prevents other requests, responses or
  closure invocations on that link from being processed.  Consequently call chains that
  alternate direction (A calls B, whose handler calls A, …) complete for every depth, and
  independent calls complete while others are stalled."

  Model: M3 (Model/System.lean).  Handlers stall for as long as they like (`handlerStall` /
  `handlerResume` are choices of the application), call the peer from inside user code
  (`handlerCallPeer`) and return arbitrary values.  The property theorems are about `Skeleton.current` (the
  witness theorems say in their statements which other skeleton they are about).
  What the model cannot carry and is left to the runtime: that the Go scheduler eventually runs
  every runnable goroutine (the theorems exhibit the enabled steps; they do not schedule them).
-/
import Panrpc.Lemmas.SystemLoop
import Panrpc.Props.C01

namespace Panrpc.Sys

/-! ### C02 -/

/-- Neither loop ever waits: in every reachable state the request loop and the response loop of
    both endpoints are at their reading step (they are never inside a resolver, a handler or a
    Publish), and "consume frame `i`" is enabled iff the buffer holds a frame `i` — independently
    of the state of every handler, call and publisher thread. -/
theorem C02_loops_never_wait : ∀ s, Reach Skeleton.current s → ∀ e,
    s.reqLoopBusy e = none ∧ s.resLoopBusy e = none ∧
    (∀ i, (step Skeleton.current s (.reqDeliver e i)).isSome = true ↔ i < (s.reqs e).length) ∧
    (∀ i, (step Skeleton.current s (.resDeliver e i)).isSome = true ↔ i < (s.ress e).length) :=
  loops_never_wait_of _ cur_async

/-- Call chains that alternate direction complete for every depth.  From EVERY reachable state `s`
    — whatever handler threads are stalled in it, whatever calls and frames are in flight — and
    for every depth `n`, an explicit run of `9 + 10·n` steps starts a fresh call of `e`, whose
    handler on the peer calls back to `e`, whose handler calls the peer again, … `n` levels deep,
    and takes it to `returned` with value `n` (the innermost handler returns 0, every other one
    its nested result + 1).  No step of the run belongs to a handler thread that existed in `s`,
    and everything that existed in `s` (in particular every stalled handler) is left untouched. -/
theorem C02_chain_completes : ∀ n s, Reach Skeleton.current s → ∀ e,
    ∃ acts s', run Skeleton.current s (.callStart e 0 n :: acts) = some s' ∧ acts.length = 8 + 10 * n ∧
      s'.calls e (s.nextCall e) =
        { pc := .returned, id := s.nextCall e, fn := 0, args := n, parent := none, result := some (n, 0) } ∧
      (∀ a, a ∈ acts → ∀ x h, a.handler? = some (x, h) → s.nextHandler x ≤ h) ∧
      Untouched s s' ∧
      (∀ x h, (s.handlers x h).pc = .stalled → (s'.handlers x h).pc = .stalled) :=
  fun n _ hr e =>
    chain_completes _ cur_facts cur_async cur_recv_before_write (fun k => (k, 0)) n hr e 0 n

/-- Independent calls complete while others are stalled: from every reachable state, with any
    number of stalled handlers, a fresh call (any function, any arguments, any handler result)
    completes in 9 steps that touch nothing that existed before; the stalled handlers stay stalled. -/
theorem C02_independent_progress : ∀ s, Reach Skeleton.current s → ∀ e fn args v err,
    ∃ acts s', run Skeleton.current s (.callStart e fn args :: acts) = some s' ∧ acts.length = 8 ∧
      s'.calls e (s.nextCall e) =
        { pc := .returned, id := s.nextCall e, fn := fn, args := args, parent := none, result := some (v, err) } ∧
      (∀ a, a ∈ acts → ∀ x h, a.handler? = some (x, h) → s.nextHandler x ≤ h) ∧
      Untouched s s' ∧
      (∀ x h, (s.handlers x h).pc = .stalled → (s'.handlers x h).pc = .stalled) :=
  fun _ hr e fn args v err =>
    chain_completes _ cur_facts cur_async cur_recv_before_write (fun _ => (v, err)) 0 hr e fn args

/-! ### non-vacuity -/

/-- a reachable state with a stalled handler on each side, a request in flight that nobody
    delivers, and a freshly started call -/
def stalledPrefix : List Act :=
  [.callStart .A 1 1, .callWrite .A 0, .reqDeliver .B 0, .handlerEnter .B 0, .handlerStall .B 0,
   .callStart .B 2 2, .callWrite .B 0, .reqDeliver .A 0, .handlerEnter .A 0, .handlerStall .A 0,
   .callStart .A 3 3, .callWrite .A 1,
   .callStart .A 0 3]

/-- … from which the chain of depth 3 completes with value 3 in 38 steps, the stalled handlers
    still stalled, the undelivered request still in flight -/
example : ((run Skeleton.current init stalledPrefix).bind fun s =>
      serve Skeleton.current (fun k => (k, 0)) 3 .A 2 s).map
    (fun r => decide ((r.1.calls .A 2).pc = .returned ∧ (r.1.calls .A 2).result = some (3, 0) ∧
                      (r.1.handlers .B 0).pc = .stalled ∧ (r.1.handlers .A 0).pc = .stalled ∧
                      (r.1.reqs .B).length = 1 ∧ r.2.length = 38 ∧
                      (run Skeleton.current init (stalledPrefix ++ r.2)).isSome = true)) = some true :=
  rfl

/-- frames wait in both buffers while a handler is stalled, and both loops can take them -/
example : ∃ acts, (run Skeleton.current init acts).map
    (fun s => decide ((s.handlers .B 0).pc = .stalled ∧ (s.reqs .B).length = 1 ∧ (s.ress .B).length = 1) &&
              (step Skeleton.current s (.reqDeliver .B 0)).isSome &&
              (step Skeleton.current s (.resDeliver .B 0)).isSome) = some true :=
  ⟨[.callStart .A 1 1, .callWrite .A 0, .reqDeliver .B 0, .handlerEnter .B 0, .handlerStall .B 0,
    .callStart .B 2 2, .callWrite .B 0, .reqDeliver .A 0, .handlerEnter .A 0, .handlerReturn .A 0 4 0,
    .respond .A 0, .callStart .A 3 3, .callWrite .A 1], rfl⟩

/-! ### the facts are load-bearing -/

/-- the source with both `go` statements of the request loop removed: the loop runs resolver and
    handler inline -/
def skInline : Skeleton := { Skeleton.current with reqHandlerGoDepth := 0, reqResolveGoDepth := 0 }

/-- A→B, B's handler calls A, A's handler calls B: with inline handlers B's request loop is still
    inside the first handler, which waits for A's handler, which waits for the request that only
    B's request loop could take. -/
def deadlockRun : List Act :=
  [.callStart .A 0 0, .callWrite .A 0, .reqDeliver .B 0, .handlerEnter .B 0,
   .handlerCallPeer .B 0 0 0, .callWrite .B 0, .reqDeliver .A 0, .handlerEnter .A 0,
   .handlerCallPeer .A 0 0 0, .callWrite .A 1]

/-- With the handler inline in the request loop (`reqHandlerGoDepth = 0`) the alternating chain
    A→B→A→B deadlocks: a request is in flight towards B, B's request loop is busy, and no action
    of any thread is enabled (only new top-level calls, which would queue behind the same loop). -/
theorem C02_needs_async_handler :
    (run skInline init deadlockRun).map
      (fun s => decide (s.reqLoopBusy .B = some 0 ∧ (s.reqs .B).length = 1 ∧
                        (s.handlers .B 0).pc = .waitingNested 0 ∧ (s.handlers .A 0).pc = .waitingNested 1) &&
                stuck skInline s) = some true := by
  decide

/-- `stuck` is meant literally for that state: every action other than a new top-level call is
    disabled. -/
theorem C02_inline_deadlock_is_stuck : ∀ s, run skInline init deadlockRun = some s →
    ∀ a, (∀ e fn args, a ≠ .callStart e fn args) → step skInline s a = none := by
  intro s hs
  have := C02_needs_async_handler
  rw [hs] at this
  simp only [Option.map_some, Option.some.injEq, Bool.and_eq_true] at this
  exact stuck_sound _ (by constructor <;> decide) (reach_of_run _ _ .init hs) this.2

/-- The threshold is exactly this shape: with inline handlers the shorter chain A→B→A still
    completes (responses travel through the response loops, which are separate goroutines); the
    deadlock needs a request for a loop that is itself inside a handler, i.e. A→B→A→B. -/
example : ((run skInline init [.callStart .A 0 1]).bind fun s => serve skInline (fun k => (k, 0)) 1 .A 0 s).map
    (fun r => decide ((r.1.calls .A 0).pc = .returned ∧ (r.1.calls .A 0).result = some (1, 0))) = some true :=
  rfl

example : ((run skInline init [.callStart .A 0 2]).bind fun s => serve skInline (fun k => (k, 0)) 2 .A 0 s) = none :=
  rfl

/-- … while the very same schedule is not stuck for the source as it is: B's request loop takes
    the request. -/
example : (run Skeleton.current init deadlockRun).map
    (fun s => (step Skeleton.current s (.reqDeliver .B 0)).isSome && !stuck Skeleton.current s) = some true :=
  rfl

/-- the source with something in the request loop's body that can wait between two reads (an admission
    limit on handler goroutines, a lock, a channel): modelled as the strictest such limit -/
def skLimited : Skeleton := { Skeleton.current with reqLoopBlocksOnlyOnRead := false }

/-- With an admission limit in the request loop the same alternating chain deadlocks although every
    handler has a goroutine of its own: B's loop does not take the second request while its first
    handler is still running — and that handler waits for exactly that request's result. -/
theorem C02_needs_nonblocking_loop :
    (run skLimited init deadlockRun).map
      (fun s => decide (s.reqLoopBusy .B = some 0 ∧ (s.reqs .B).length = 1) &&
                (step skLimited s (.reqDeliver .B 0)).isNone && stuck skLimited s) = some true := by
  decide

/-- …and a single stalled handler keeps an INDEPENDENT call from being served. -/
theorem C02_limited_loop_stalled_handler_blocks_others :
    (run skLimited init [.callStart .A 1 1, .callWrite .A 0, .reqDeliver .B 0, .handlerEnter .B 0, .handlerStall .B 0,
                         .callStart .A 2 2, .callWrite .A 1]).map
      (fun s => (step skLimited s (.reqDeliver .B 0)).isNone) = some true ∧
    (run Skeleton.current init [.callStart .A 1 1, .callWrite .A 0, .reqDeliver .B 0, .handlerEnter .B 0, .handlerStall .B 0,
                         .callStart .A 2 2, .callWrite .A 1]).map
      (fun s => (step Skeleton.current s (.reqDeliver .B 0)).isSome) = some true := by
  decide

/-- the source with something in the WRITE wrapper that can wait (a window / semaphore on the requests in flight of
    one side, "back-pressure"): modelled as the strictest such limit, one unanswered request per endpoint -/
def skWindow : Skeleton := { Skeleton.current with ioWrappersNonBlocking := false }

/-- With a caller-side window the alternating chain deadlocks one level later: A's request is unanswered, B's
    handler's nested request is unanswered, and the request A's handler needs to write next — the one whose result
    everything waits for — is held back by A's own window.  Nothing is enabled any more. -/
theorem C02_needs_nonblocking_wrappers :
    (run skWindow init (deadlockRun.take 9)).map
      (fun s => decide ((s.handlers .B 0).pc = .waitingNested 0 ∧ (s.handlers .A 0).pc = .waitingNested 1) &&
                (step skWindow s (.callWrite .A 1)).isNone && stuck skWindow s) = some true ∧
    (run Skeleton.current init (deadlockRun.take 9)).map
      (fun s => (step Skeleton.current s (.callWrite .A 1)).isSome) = some true := by
  decide

/-- …and a single stalled handler keeps an INDEPENDENT call of the same side from even being written. -/
theorem C02_window_stalled_handler_blocks_others :
    (run skWindow init [.callStart .A 1 1, .callWrite .A 0, .reqDeliver .B 0, .handlerEnter .B 0, .handlerStall .B 0,
                        .callStart .A 2 2]).map
      (fun s => (step skWindow s (.callWrite .A 1)).isNone) = some true ∧
    (run Skeleton.current init [.callStart .A 1 1, .callWrite .A 0, .reqDeliver .B 0, .handlerEnter .B 0, .handlerStall .B 0,
                        .callStart .A 2 2]).map
      (fun s => (step Skeleton.current s (.callWrite .A 1)).isSome) = some true := by
  decide

/-- the source with `go` removed from `go responseResolver.Publish(…)` -/
def skSyncPublish : Skeleton := { Skeleton.current with respPublishAsync := false }

/-- A synchronous Publish would make the response loop wait (it IS busy in reachable states) … -/
theorem C02_sync_publish_makes_loop_wait :
    ∃ acts, (run skSyncPublish init acts).map
      (fun s => decide (s.resLoopBusy .A = some 0 ∧ (s.ress .A).length = 1) &&
                (step skSyncPublish s (.resDeliver .A 0)).isNone) = some true :=
  ⟨[.callStart .A 1 1, .callStart .A 2 2, .callWrite .A 0, .callWrite .A 1, .reqDeliver .B 0, .reqDeliver .B 0,
    .handlerEnter .B 0, .handlerEnter .B 1, .handlerReturn .B 0 1 0, .handlerReturn .B 1 2 0,
    .respond .B 0, .respond .B 1, .resDeliver .A 0], rfl⟩

/-- … but it yields no stuck state in this model: the publisher the loop waits for always has an
    enabled step of its own (hand the value to the waiter, or drop it), after which the loop is
    free again.  (In M3 the waiter goroutine of a pending call is always receiving.) -/
theorem C02_sync_publish_only_delays : ∀ s, Reach skSyncPublish s → ∀ e p, s.resLoopBusy e = some p →
    (step skSyncPublish s (.publishDrop e p)).isSome = true ∨
    ∃ t, (step skSyncPublish s (.publish e p t)).isSome = true := by
  intro s hr e p hb
  have hf : Facts skSyncPublish := by constructor <;> decide
  exact pending_pub_can_finish _ (reach_all _ hf hr).c e p (busy_pub_pending _ hr e p hb)

/-- A running closure holds no panrpc lock: `CallClosure` looks the closure up under the closure-table
    mutex, RELEASES it, and only then runs application code; the table lock is a plain mutex taken only
    for the lookup / insert / delete.  So a stalled, slow or re-entrant closure (the handler threads of
    M3 that run `CallClosure`) cannot block closure registration, release or invocation of any other
    call or link — the model's handler steps take no shared lock because the source takes none
    (checked against the regenerated skeleton). -/
theorem C02_no_lock_across_closure :
    Skeleton.current.clInvokeOutsideLock = true ∧ Skeleton.current.clLockIsMutex = true ∧
    Skeleton.current.clLookupUnderLock = true ∧ Skeleton.current.clInsertUnderLock = true ∧
    Skeleton.current.clDeleteUnderLock = true := by decide

/-- M3 has no step by which ONE call's own context ends the link under everybody else: `Receive` fails only on a closed
    table (a nested call made by a handler whose own deadline has passed is registered and then returns its context's
    error), and the stub panics only on failures of the link (both checked against the regenerated skeleton;
    `utils/broadcaster.go` is outside this property's anchors). Otherwise one slow handler's late nested call would take
    down a stalled chain and every independent call of the link. -/
theorem C02_a_handlers_expired_nested_call_is_not_fatal :
    Skeleton.current.bcReceiveErrorsOnlyClosed = true ∧ Skeleton.current.panicSitesCanonical = true := by decide

/-- M3 lets every handler thread run on its own; an invocation of a passed closure is such a handler (`CallClosure`).
    The table holds the closure's wrapper itself — no per-closure mutex, semaphore or queue around it — and its mutex is
    not held while the closure runs (checked against the regenerated skeleton): a stalled invocation blocks no other
    invocation of the same closure, and a chain that re-enters the closure does not wait for itself. -/
theorem C02_closure_invocations_are_not_serialised :
    Skeleton.current.clStoresCreatedClosure = true ∧ Skeleton.current.clInvokeOutsideLock = true := by decide

end Panrpc.Sys

#print axioms Panrpc.Sys.C02_loops_never_wait
#print axioms Panrpc.Sys.C02_chain_completes
#print axioms Panrpc.Sys.C02_independent_progress
#print axioms Panrpc.Sys.C02_needs_async_handler
#print axioms Panrpc.Sys.C02_inline_deadlock_is_stuck
#print axioms Panrpc.Sys.C02_sync_publish_makes_loop_wait
#print axioms Panrpc.Sys.C02_sync_publish_only_delays
#print axioms Panrpc.Sys.C02_no_lock_across_closure
#print axioms Panrpc.Sys.C02_needs_nonblocking_loop
#print axioms Panrpc.Sys.C02_limited_loop_stalled_handler_blocks_others
#print axioms Panrpc.Sys.C02_needs_nonblocking_wrappers
#print axioms Panrpc.Sys.C02_window_stalled_handler_blocks_others
#print axioms Panrpc.Sys.C02_a_handlers_expired_nested_call_is_not_fatal
#print axioms Panrpc.Sys.C02_closure_invocations_are_not_serialised
