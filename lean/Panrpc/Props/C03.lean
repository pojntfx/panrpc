/-
  Props/C03.lean — "When a link ends, every in-flight call errors out; none hang or fake success".

  Model: M2.  Whatever ends the link (a failing read/write/codec operation in a loop or handler,
  an invalid remote definition, the cancelled link context) does so by calling `setErr`: in the
  model a setter thread `setErrEnter t e` with an arbitrary error, at an arbitrary point, or the
  ctx watcher.  `setErr` closes the pending-call table; "the link has ended" = `bc.closed`.
  A call's error result is nil iff its outcome is `.ok r` with `r.err = .none`.
-/
import Panrpc.Lemmas.EndpointCurrent

namespace Panrpc.Ep

/-- Every `setErr`, by whichever thread and with whichever error, runs to completion by two own
    steps and leaves the pending-call table closed… -/
theorem C03_setErr_closes : ∀ s, Reach Skeleton.current s → ∀ t e, s.setters t = .entered e →
    ∃ s', run Skeleton.current s [.setErrStore t, .setErrClose t] = some s' ∧ s'.bc.closed = true ∧
      s'.setters t = .done :=  by
  intro s h t e ht
  obtain ⟨s', h1, h2, h3, _⟩ := setErr_completes _ cur_live cur_storefirst h t e ht
  exact ⟨s', h1, h2, h3⟩

/-- …`setErrClose` closes it, and a closed table stays closed for ever (and empty: `C15_no_pending_entries`). -/
theorem C03_ended_means_closed : ∀ s s' t, step Skeleton.current s (.setErrClose t) = some s' →
    s'.bc.closed = true := by
  intro s s' t hs
  cases Step.of_step hs <;> exact Bc.Step.close_closes (sk := Skeleton.current) (by decide) ‹_›

theorem C03_closed_forever : ∀ s s' acts, run Skeleton.current s acts = some s' →
    s.bc.closed = true → s'.bc.closed = true :=
  fun _ _ acts h hc => runFrom_invariant (fun _ a _ hc hs => closed_mono _ a hs hc) acts hc h

/-- Closing wakes every waiter: a waiter inside the receive function of an ended link has its
    closed-signal case enabled (it yields `ErrClosed`, mapped to a `cancelled` response). -/
theorem C03_waiters_woken : ∀ s, Reach Skeleton.current s → s.bc.closed = true →
    ∀ c, s.waiters c = .recv →
    ∃ s', step Skeleton.current s (.waiterGetsDone c) = some s' ∧
      s'.waiters c = .have { fromFrame := none, err := .closed } := by
  intro s h hcl c hw
  have hemp := (reach_wk _ cur_hyg cur_wakes h).closed_empty hcl
  obtain ⟨s', h1, h2, _⟩ := waiterGetsDone_enabled _ cur_live h c hw (hemp c)
  exact ⟨s', h1, h2⟩

/-- A call never returns a nil error unless a genuine response for it was received: a nil
    error result comes from a response frame that a publisher of this very call id handed to
    this call's waiter (M1's delivery log). -/
theorem C03_no_fake_success : ∀ s, Reach Skeleton.current s → ∀ c r,
    (s.calls c).outcome = .ok r → r.err = .none →
    ∃ v, r.fromFrame = some v ∧
      s.bc.deliveries.any (fun d => decide (d.rcv = c ∧ d.val = v ∧ d.pkey = c ∧ d.rkey = c)) = true := by
  intro s h c r ho he
  obtain ⟨g1, g2, _⟩ := (reach_ju _ h c).out_ok r ho
  cases hf : r.fromFrame with
  | none => rcases g2 hf with h' | h' <;> simp [he] at h'
  | some v => exact ⟨v, rfl, g1 v hf⟩

/-- every returned call has a result: built from a response, or `(zero, e)` with e non-nil -/
theorem C03_returned_has_outcome : ∀ s, Reach Skeleton.current s → ∀ c, (s.calls c).pc = .returned →
    (∃ r, (s.calls c).outcome = .ok r) ∨ (∃ e, (s.calls c).outcome = .failed e) :=
  fun _ h c => (reach_oi _ h c).returned_set

/-- Calls made after the link ended fail immediately: `Receive` is refused, the stub panics with
    `ErrClosed`, recovers and returns `(zero, ErrClosed)` — two own steps, no request is written. -/
theorem C03_later_calls_fail : ∀ s, Reach Skeleton.current s → s.bc.closed = true →
    ∀ c, (s.calls c).pc = .marshalled →
    ∃ s', run Skeleton.current s [.callReceive c, .callRecover c eClosed] = some s' ∧
      (s'.calls c).pc = .returned ∧ (s'.calls c).outcome = .failed eClosed := by
  intro s h hcl c hp
  have h1 := callReceive_refused _ cur_live h c hp hcl
  have hr1 := Reach.step _ h h1
  have h2 := callRecover_enabled _ cur_live hr1 c eClosed (by simp)
  exact ⟨_, run_cons _ h1 (run_cons _ h2 (run_nil _ _)), by simp, by simp⟩

/-- …and there is no other way on: `callReceive` on a closed table leads to the panic path,
    and a panicking stub only ever leaves through its recover, with that error
    (it never reaches `registered`, `spawned` or `written`). -/
theorem C03_later_calls_never_write : ∀ s, Reach Skeleton.current s → s.bc.closed = true →
    ∀ c s', (s.calls c).pc = .marshalled → step Skeleton.current s (.callReceive c) = some s' →
    (s'.calls c).pc = .panicking eClosed := by
  intro s h hcl c s' hp hs
  rw [callReceive_refused _ cur_live h c hp hcl] at hs
  cases hs; simp

theorem C03_panic_only_returns_error : ∀ s s' a, step Skeleton.current s a = some s' → ∀ c e,
    (s.calls c).pc = .panicking e →
    (s'.calls c).pc = .panicking e ∨ ((s'.calls c).pc = .returned ∧ (s'.calls c).outcome = .failed e) :=
  fun _ _ => panicking_exit _

theorem C03_panic_recovers : ∀ s, Reach Skeleton.current s → ∀ c e, (s.calls c).pc = .panicking e →
    ∃ s', step Skeleton.current s (.callRecover c e) = some s' ∧ (s'.calls c).pc = .returned ∧
      (s'.calls c).outcome = .failed e := by
  intro s h c e hp
  exact ⟨_, callRecover_enabled _ cur_live h c e hp, by simp, by simp⟩

/-- A call at its select is never stuck once the link context is done or something is in `res`. -/
theorem C03_caller_never_stuck : ∀ s, Reach Skeleton.current s → ∀ c, (s.calls c).pc = .written →
    (s.linkCtxDone = true → (step Skeleton.current s (.callLinkCtx c)).isSome = true) ∧
    (s.res c ≠ [] → (step Skeleton.current s (.callTakeRes c false)).isSome = true) := by
  intro s h c hp
  constructor
  · intro hl; rw [callLinkCtx_enabled _ cur_live h c hp hl]; rfl
  · intro hres
    cases hrs : s.res c with
    | nil => exact absurd hrs hres
    | cons r rest => rw [callTakeRes_enabled _ cur_live h c false r rest hp hrs (Or.inr rfl)]; rfl

/-- Every call in flight at its select when the link ends returns: at most four steps of its
    waiter and two of its own, none of the peer, the transport or user code. -/
theorem C03_inflight_returns : ∀ s, Reach Skeleton.current s → s.bc.closed = true →
    ∀ c, (s.calls c).pc = .written →
    ∃ acts s', acts.length ≤ 6 ∧ run Skeleton.current s acts = some s' ∧ (s'.calls c).pc = .returned :=
  fun _ h hcl c hp =>
    let ⟨acts, s', hlen, hrun, hret, _⟩ := inflight_returns _ cur_live h c hcl hp
    ⟨acts, s', hlen, hrun, hret⟩

/-- …and so does every call, wherever its stub stands when the link ends (before `Receive`,
    before the spawn, before or after the write, while decoding, while panicking): at most eight
    steps of its own and of its waiter. -/
theorem C03_every_inflight_call_returns : ∀ s, Reach Skeleton.current s → s.bc.closed = true →
    ∀ c, (s.calls c).pc ≠ .absent →
    ∃ acts s', acts.length ≤ 8 ∧ run Skeleton.current s acts = some s' ∧ (s'.calls c).pc = .returned :=
  fun _ h hcl c hp =>
    let ⟨acts, s', hlen, hrun, hret, _⟩ := every_inflight_returns _ cur_live h c hcl hp
    ⟨acts, s', hlen, hrun, hret⟩

/-! ### non-vacuity -/

/-- two calls in flight, the response loop fails to read (ext 7): both calls error out with
    ErrClosed, a later call fails at once; Link returns the read error -/
example : (run Skeleton.current init
    [.callStart 0 5 2 0, .callReceive 0, .callSpawn 0, .callWrite 0, .waiterRecvCall 0,
     .callStart 1 6 1 0, .callReceive 1, .callSpawn 1, .callWrite 1,
     .setErrEnter 10 7, .setErrStore 10, .setErrClose 10,
     .waiterGetsDone 0, .waiterSend 0, .waiterFree 0, .callTakeRes 0 true, .callReturnOk 0,
     .waiterRecvCall 1, .waiterGetsDone 1, .waiterSend 1, .waiterFree 1, .callTakeRes 1 true, .callReturnOk 1,
     .callStart 2 5 2 0, .callReceive 2, .callRecover 2 eClosed]).map
    (fun s => decide ((s.calls 0).outcome = .ok ⟨none, .closed⟩ ∧ (s.calls 1).outcome = .ok ⟨none, .closed⟩ ∧
                      (s.calls 2).outcome = .failed eClosed ∧ (s.calls 0).pc = .returned ∧
                      (s.calls 1).pc = .returned ∧ (s.calls 2).pc = .returned ∧ s.slot = some (eExt 7))) = some true :=
  rfl

/-- a response delivered before the end is still returned as a success, justified by the delivery log -/
example : (run Skeleton.current init
    [.callStart 0 5 2 0, .callReceive 0, .callSpawn 0, .callWrite 0, .waiterRecvCall 0,
     .respFrame 0 0 42 false, .pubLookup 0, .waiterGetsValue 0 0,
     .setErrEnter 10 7, .setErrStore 10, .setErrClose 10,
     .waiterSend 0, .waiterFree 0, .callTakeRes 0 false, .callReturnOk 0]).map
    (fun s => decide ((s.calls 0).outcome = .ok ⟨some 42, .none⟩ ∧ s.bc.deliveries = [⟨0, 0, 0, 0, 42⟩])) = some true :=
  rfl

/-- A failed transport read reaches `setErr` without waiting for anybody: in both read loops the error
    branch runs `setErr` and leaves (`…ExitsOnReadErr`), and nothing in the loop bodies outside the
    spawned goroutines can wait — no lock, channel operation or `sync` wait, directly or through a
    local closure (checked against the regenerated skeleton).  `setErrEnter` is therefore an
    always-enabled step of M2, as the theorems above assume; a loop that first had to take a lock
    held by application code (e.g. the remote-enumeration callback inside which the in-flight call
    was issued) would never close the pending-call table.  Likewise `setErr` itself takes no lock but
    its own (`seOnlyOwnLock`). -/
theorem C03_read_failure_reaches_setErr :
    Skeleton.current.reqLoopExitsOnReadErr = true ∧ Skeleton.current.respLoopExitsOnReadErr = true ∧
    Skeleton.current.respLoopSetErrOnReadErr = true ∧
    Skeleton.current.reqLoopBlocksOnlyOnRead = true ∧ Skeleton.current.respLoopBlocksOnlyOnRead = true ∧
    Skeleton.current.seOnlyOwnLock = true := by decide

/-- M2's `setErrClose` is a step of EVERY thread inside `setErr`: in the source every path through `setErr`
    closes the pending-call table — the two branches differ only in the cause they pass (checked against
    the regenerated skeleton). -/
theorem C03_setErr_always_closes : Skeleton.current.seClosesOnEveryPath = true := by decide

/-- M2's `callRecover c e` returns `e` as the call's error with a valid result list and enters `setErr e`.
    In the source that is the stub's deferred function: the panic value becomes the error (itself if it is
    one, else ErrPanickedWithNonErrorValue), `setErr` is called unconditionally, and the result list is
    repaired for both arities — `[err]` / `[zero, err]` — so that reflect never sees a wrong count (and panics
    in the CALLER's goroutine); likewise for the closure proxy and the handler goroutine (checked
    against the regenerated skeleton, statement by statement). -/
theorem C03_recover_blocks_canonical : Skeleton.current.recoverBlocksCanonical = true := by decide

/-- M2's `callRecover` / `callReturnOk` release the call's closures in the same step: in the source that needs the
    deferred release to wait for nobody. The release function `registerClosure` returns runs DEFERRED on every exit path
    of a closure-carrying call; it only locks, deletes and unlocks — no wait, channel operation or select (checked
    against the regenerated skeleton) — and the lock it takes is not held while a closure body runs. A release that
    waited for invocations still running (a `WaitGroup`) would keep a call whose link has ended from returning for as
    long as the peer's handler keeps the closure busy. -/
theorem C03_closure_release_never_waits :
    Skeleton.current.clFreeNeverWaits = true ∧ Skeleton.current.clInvokeOutsideLock = true ∧ Skeleton.current.stubClosureFreeDeferred = true := by decide

/-- A closure invocation in flight when the link ends is an in-flight call of M2 made by the proxy THROUGH `utils.Call`:
    the error the stub returns (e.g. `context.DeadlineExceeded` when the link's context ran into its deadline — a
    zero-valued struct) reaches the handler only if `utils.Call` hands the results back untouched (checked against the
    regenerated skeleton). -/
theorem C03_nested_call_errors_pass_through_utils_call :
    Skeleton.current.ucResultsUntouched = true ∧ Skeleton.current.ucNoWaiting = true := by decide

/-- M2's response loop reports EVERY frame the codec rejects (`respFrame` with a decode failure → `setErr`):
    `Response.Unmarshal` hands the codec's error on as it is — it does nothing but call the user's function on the
    struct (checked against the regenerated skeleton; `utils/messages.go` is outside this property's anchors). A version
    that swallowed the error for frames with a non-empty `err` would leave the link up and the call the frame was meant
    for blocked for ever. -/
theorem C03_an_undecodable_response_reaches_setErr :
    Skeleton.current.msgCodecPlain = true ∧ Skeleton.current.errBranchesHandled = true ∧ Skeleton.current.respLoopSetErrOnReadErr = true := by decide

end Panrpc.Ep

#print axioms Panrpc.Ep.C03_read_failure_reaches_setErr
#print axioms Panrpc.Ep.C03_setErr_closes
#print axioms Panrpc.Ep.C03_ended_means_closed
#print axioms Panrpc.Ep.C03_closed_forever
#print axioms Panrpc.Ep.C03_waiters_woken
#print axioms Panrpc.Ep.C03_no_fake_success
#print axioms Panrpc.Ep.C03_returned_has_outcome
#print axioms Panrpc.Ep.C03_later_calls_fail
#print axioms Panrpc.Ep.C03_later_calls_never_write
#print axioms Panrpc.Ep.C03_panic_only_returns_error
#print axioms Panrpc.Ep.C03_panic_recovers
#print axioms Panrpc.Ep.C03_caller_never_stuck
#print axioms Panrpc.Ep.C03_inflight_returns
#print axioms Panrpc.Ep.C03_every_inflight_call_returns
#print axioms Panrpc.Ep.C03_setErr_always_closes
#print axioms Panrpc.Ep.C03_recover_blocks_canonical
#print axioms Panrpc.Ep.C03_closure_release_never_waits
#print axioms Panrpc.Ep.C03_nested_call_errors_pass_through_utils_call
#print axioms Panrpc.Ep.C03_an_undecodable_response_reaches_setErr
