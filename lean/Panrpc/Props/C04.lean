/-
  Props/C04.lean — "Cancelling one call's context ends only that call, promptly".

  Model: M2; `ctxCancel x` (and M1's `ctxPropagate g`) is enabled at every point; response
  frames (`respFrame`) may arrive before, between and after every step.

  Reading of "before its response arrives" (DESIGN.md, C04): the waiter's receive is a Go
  `select` over the value channel, the closed signal and the call's context.  What is demanded
  strictly is the case the statement is about: the waiter evaluates its select with the context
  done and no publisher standing at the hand-off — then only the context error is possible
  (`C04_cancel_returns`).  If a publisher already stands at the hand-off, both cases are ready,
  Go chooses, and either outcome is admissible.
-/
import Panrpc.Lemmas.EndpointCurrent

namespace Panrpc.Ep

/-- The call's context is done, its waiter is inside the receive function, the entry is live and
    no publisher holds it: the only enabled continuation of the waiter is the context error
    (neither the value case nor the closed-signal case is enabled, the ctx case is). -/
theorem C04_only_ctx_error : ∀ s, Reach Skeleton.current s → ∀ c g,
    s.waiters c = .recv → s.bc.ctxs (s.calls c).ctx = true →
    s.bc.rcvs c = .waiting c g (s.calls c).ctx → s.bc.table c = some g →
    (∀ p k v, s.bc.pubs p ≠ .holding k v g) →
    step Skeleton.current s (.waiterGetsDone c) = none ∧
    (∀ p, step Skeleton.current s (.waiterGetsValue c p) = none) ∧
    ∃ s', step Skeleton.current s (.waiterGetsCtx c) = some s' ∧
      s'.waiters c = .have { fromFrame := none, err := .ctxErr } := by
  intro s h c g hw hx hrc ht hnp
  obtain ⟨a, b⟩ := only_ctx_ready _ cur_prog h c g hw hrc ht hnp
  obtain ⟨s', h1, h2, _⟩ := waiterGetsCtx_enabled _ cur_live h c hw hx
  exact ⟨a, b, s', h1, h2⟩

/-- …and from there the call returns `(zero, ctx error)` by five own steps (three of the waiter:
    ctx case, send, free; two of the call thread: take the response — nothing is decoded, whatever
    the codec would do — and return), each enabled in turn without the peer or user code.
    The waiter has exited and the entry is freed (`C04_entry_freed`). -/
theorem C04_cancel_returns : ∀ s, Reach Skeleton.current s → ∀ c (codecFails : Bool),
    s.waiters c = .recv → s.bc.ctxs (s.calls c).ctx = true → (s.calls c).pc = .written →
    ∃ s', run Skeleton.current s
        [.waiterGetsCtx c, .waiterSend c, .waiterFree c, .callTakeRes c codecFails, .callReturnOk c] = some s' ∧
      (s'.calls c).pc = .returned ∧ (s'.calls c).outcome = .ok { fromFrame := none, err := .ctxErr } ∧
      s'.waiters c = .exited ∧ s'.bc.table c = none :=
  fun _ => cancel_run _ cur_live

/-- Cancellation concurrent with arrival: whatever step is taken next (by anybody) while the
    waiter stands in the receive function of its live entry, the waiter either still stands
    there, or holds the context error, or holds a response frame of its own call id that a
    publisher handed to it — nothing else (in particular no error of another call, no `closed`). -/
theorem C04_concurrent_either : ∀ s, Reach Skeleton.current s → ∀ a s' c g,
    step Skeleton.current s a = some s' →
    s.waiters c = .recv → s.bc.rcvs c = .waiting c g (s.calls c).ctx → s.bc.table c = some g →
    s'.waiters c = .recv ∨ s'.waiters c = .have { fromFrame := none, err := .ctxErr } ∨
    ∃ v e, s'.waiters c = .have { fromFrame := some v, err := e } ∧ (e = .none ∨ e = .app) ∧
      s'.bc.deliveries.any (fun d => decide (d.rcv = c ∧ d.val = v ∧ d.pkey = c ∧ d.rkey = c)) = true :=
  fun _ h a _ c g hs => recv_either _ cur_prog h a hs c g

/-- The link stays healthy: no step of that path enters or advances `setErr` — setter threads,
    the error log and the slot are what they were. (General: only `callRecover`, the watcher and
    `setErr*` steps touch them.) -/
theorem C04_no_setErr : ∀ s s' c (codecFails : Bool), run Skeleton.current s
      [.waiterGetsCtx c, .waiterSend c, .waiterFree c, .callTakeRes c codecFails, .callReturnOk c] = some s' →
    s'.setters = s.setters ∧ s'.fatalLog = s.fatalLog ∧ s'.slot = s.slot :=
  fun _ _ _ _ hrun => fatal_frame_run _ _ (by simp [touchesFatal]) hrun

theorem C04_only_fatal_steps_touch_setErr : ∀ s s' a, step Skeleton.current s a = some s' →
    touchesFatal a = false → s'.setters = s.setters ∧ s'.fatalLog = s.fatalLog ∧ s'.slot = s.slot :=
  fun _ _ => fatal_frame _

/-- After the waiter's deferred `Free` the table has no entry for the call id. -/
theorem C04_entry_freed : ∀ s, Reach Skeleton.current s → ∀ c s',
    step Skeleton.current s (.waiterFree c) = some s' → s'.bc.table c = none := by
  intro s h c s' hs
  cases Step.of_step hs with
  | waiterExit _ _ hn => exact absurd cur_live.wfrees hn
  | waiterFree _ hw =>
    obtain ⟨s1, h1, _, _, _, ht, _⟩ := waiterFree_enabled _ cur_live h c hw
    rw [h1] at hs; cases hs; exact ht

/-- A response that arrives later for the cancelled call is discarded without effect: its
    publisher finds no entry at the lookup and finishes; the state is otherwise unchanged. -/
theorem C04_late_response_inert : ∀ s, Reach Skeleton.current s → ∀ p c frame (hasErr : Bool),
    s.bc.pubs p = .absent → s.bc.table c = none →
    run Skeleton.current s [.respFrame p c frame hasErr, .pubLookup p] =
      some { s with bc := { s.bc with pubs := upd s.bc.pubs p (.done false) }, pubErr := upd s.pubErr p hasErr } :=
  fun _ => late_response_inert _ cur_live

/-- Other calls are unaffected: a step of call `c` or of its waiter changes no component of any
    other call `c'` — its stub thread, its waiter, its `res` channel, its receiver thread in the
    broadcaster, its table entry — and does not change which steps of `c'` and of its waiter are
    enabled (so `c'` proceeds exactly as in the run in which `c` did not take that step). -/
theorem C04_others_unaffected : ∀ s, Reach Skeleton.current s → ∀ s' a c c',
    step Skeleton.current s a = some s' → actCall a = some c → c' ≠ c →
    (s'.calls c' = s.calls c' ∧ s'.waiters c' = s.waiters c' ∧ s'.res c' = s.res c' ∧
     s'.bc.rcvs c' = s.bc.rcvs c' ∧ s'.bc.table c' = s.bc.table c') ∧
    ∀ b, actCall b = some c' → (step Skeleton.current s' b).isSome = (step Skeleton.current s b).isSome :=
  fun _ h _ a c c' hs ha hne =>
    ⟨others_frame _ a hs c c' ha hne, foot_enabled _ c' (foot_of_step _ cur_live h a hs c c' ha hne)⟩

/-- …and publisher steps (response frames, late ones included) change none of these for any call,
    nor the closure table, nor the fatal-error machinery. -/
theorem C04_publishers_touch_no_call : ∀ s s' a, step Skeleton.current s a = some s' → isPubAct a = true →
    s'.calls = s.calls ∧ s'.waiters = s.waiters ∧ s'.res = s.res ∧
    s'.bc.rcvs = s.bc.rcvs ∧ s'.bc.table = s.bc.table ∧ s'.bc.entries = s.bc.entries ∧
    s'.closures = s.closures ∧ s'.setters = s.setters ∧ s'.fatalLog = s.fatalLog :=
  fun _ _ => pub_frame _

/-! ### non-vacuity -/

/-- the state `C04_only_ctx_error` / `C04_cancel_returns` talk about is reachable, with a bystander call -/
example : (run Skeleton.current init
    [.callStart 0 5 2 0, .callReceive 0, .callSpawn 0, .callWrite 0, .waiterRecvCall 0,
     .callStart 1 6 2 0, .callReceive 1, .callSpawn 1, .callWrite 1, .waiterRecvCall 1,
     .ctxCancel 5, .ctxPropagate 0]).map
    (fun s => decide (s.waiters 0 = .recv ∧ s.bc.ctxs (s.calls 0).ctx = true ∧ (s.calls 0).pc = .written ∧
                      s.bc.rcvs 0 = .waiting 0 0 5 ∧ s.bc.table 0 = some 0 ∧ s.bc.pubs 0 = .absent)) = some true :=
  rfl

/-- cancelled call returns the ctx error; a late response for it is inert; the bystander and a
    follow-up call complete normally; nothing was reported to `setErr` -/
example : (run Skeleton.current init
    [.callStart 0 5 2 0, .callReceive 0, .callSpawn 0, .callWrite 0, .waiterRecvCall 0,
     .callStart 1 6 2 0, .callReceive 1, .callSpawn 1, .callWrite 1, .waiterRecvCall 1,
     .ctxCancel 5, .ctxPropagate 0,
     .waiterGetsCtx 0, .waiterSend 0, .waiterFree 0, .callTakeRes 0 true, .callReturnOk 0,
     .respFrame 0 0 41 false, .pubLookup 0,
     .respFrame 1 1 42 false, .pubLookup 1, .waiterGetsValue 1 1, .waiterSend 1, .waiterFree 1,
     .callTakeRes 1 false, .callReturnOk 1,
     .callStart 2 7 2 0, .callReceive 2, .callSpawn 2, .callWrite 2, .waiterRecvCall 2,
     .respFrame 2 2 43 false, .pubLookup 2, .waiterGetsValue 2 2, .waiterSend 2, .waiterFree 2,
     .callTakeRes 2 false, .callReturnOk 2]).map
    (fun s => decide ((s.calls 0).outcome = .ok ⟨none, .ctxErr⟩ ∧ (s.calls 1).outcome = .ok ⟨some 42, .none⟩ ∧
                      (s.calls 2).outcome = .ok ⟨some 43, .none⟩ ∧ s.bc.pubs 0 = .done false ∧
                      s.fatalLog = [] ∧ s.bc.closed = false ∧ s.crashed = false)) = some true :=
  rfl

/-- the racing column: a publisher already stands at the hand-off when the context is cancelled —
    both the value case and the ctx case are enabled -/
example : (run Skeleton.current init
    [.callStart 0 5 2 0, .callReceive 0, .callSpawn 0, .callWrite 0, .waiterRecvCall 0,
     .respFrame 0 0 41 false, .pubLookup 0, .ctxCancel 5]).map
    (fun s => (step Skeleton.current s (.waiterGetsValue 0 0)).isSome &&
              (step Skeleton.current s (.waiterGetsCtx 0)).isSome) = some true :=
  rfl

/-! ### `Receive` fails only when the table is closed -/

/-- The stub treats every `Receive` error as fatal for the link (`panic(err)` → `recover` → `setErr(err)`).
    That is sound only if `Receive` never fails for a reason that belongs to ONE call, such as that call's
    context being done already.  It does not (source facts `bcReceiveErrorsOnlyClosed`,
    `bcReceiveRefusesWhenClosed`, checked against the regenerated skeleton as part of `cur_live`):
    while the table is open, `callReceive` of a marshalled call registers the call — whatever the state of
    its context — and touches nothing of the fatal-error machinery; and whenever `callReceive` does not
    register the call, the table was closed already (`setErr` has run) and the panic value is `ErrClosed`. -/
theorem C04_receive_fails_only_when_closed : ∀ s, Reach Skeleton.current s → ∀ c,
    ((s.calls c).pc = .marshalled → s.bc.closed = false →
      ∃ s', step Skeleton.current s (.callReceive c) = some s' ∧ (s'.calls c).pc = .registered ∧
        (s'.bc.table c).isSome = true ∧ s'.bc.closed = false ∧
        s'.setters = s.setters ∧ s'.fatalLog = s.fatalLog ∧ s'.slot = s.slot ∧ s'.link = s.link) ∧
    (∀ s', step Skeleton.current s (.callReceive c) = some s' → (s'.calls c).pc ≠ .registered →
      s.bc.closed = true ∧ (s'.calls c).pc = .panicking eClosed) :=
  fun _ h c => ⟨callReceive_registers _ cur_live h c, fun _ => callReceive_fails_closed _ cur_live c⟩

/-- What the fact protects against, as a behaviour of the model: on the current tree with that ONE fact
    flipped (`Receive` refuses a context that is done already), call 0 is in flight (registered, written,
    its waiter parked); the context of call 1 is cancelled before call 1 starts; call 1's `Receive` is
    refused with the context's error, the stub panics with it, recovers, and `setErr` stores it and closes
    the table.  One expired call has ended a healthy link: the table is closed, the slot holds call 1's
    context error, no entry was ever created for call 1, call 0's waiter is woken by the close — and call 0
    returns `closed` although nothing was wrong with the link. -/
theorem C04_refusing_a_done_context_ends_the_link :
    (run skRefusesDoneCtx init
      [.callStart 0 5 2 0, .callReceive 0, .callSpawn 0, .callWrite 0, .waiterRecvCall 0,
       .ctxCancel 6,
       .callStart 1 6 2 0, .callReceive 1, .callRecover 1 eCallCtx, .setErrStore 1, .setErrClose 1]).map
      (fun s => decide (s.bc.closed = true ∧ s.slot = some eCallCtx ∧ s.fatalLog = [eCallCtx] ∧
                        s.bc.rcvs 1 = .refusedCtx ∧ s.bc.nextGen = 1 ∧
                        (s.calls 1).outcome = .failed eCallCtx ∧ (s.calls 0).pc = .written ∧
                        (step skRefusesDoneCtx s (.waiterGetsDone 0)).isSome = true)) = some true ∧
    (run skRefusesDoneCtx init
      [.callStart 0 5 2 0, .callReceive 0, .callSpawn 0, .callWrite 0, .waiterRecvCall 0,
       .ctxCancel 6,
       .callStart 1 6 2 0, .callReceive 1, .callRecover 1 eCallCtx, .setErrStore 1, .setErrClose 1,
       .waiterGetsDone 0, .waiterSend 0, .waiterFree 0, .callTakeRes 0 false, .callReturnOk 0]).map
      (fun s => decide ((s.calls 0).pc = .returned ∧ (s.calls 0).outcome = .ok ⟨none, .closed⟩ ∧
                        s.crashed = false)) = some true := by
  constructor <;> decide

/-- The positive counterpart on the current tree: after the very same prefix, `callReceive 1` succeeds
    although call 1's context is done — the call is registered, its entry exists (born cancelled), the
    stub has nothing to recover, the link is untouched; call 1 then learns of its context's end the
    regular way (through its waiter) and returns the context error, with the link still healthy. -/
theorem C04_done_context_call_registers :
    (run Skeleton.current init
      [.callStart 0 5 2 0, .callReceive 0, .callSpawn 0, .callWrite 0, .waiterRecvCall 0,
       .ctxCancel 6,
       .callStart 1 6 2 0, .callReceive 1]).map
      (fun s => decide ((s.calls 1).pc = .registered ∧ s.bc.rcvs 1 = .have 1 1 6 ∧ s.bc.table 1 = some 1 ∧
                        s.bc.closed = false ∧ s.slot = none ∧ s.fatalLog = [] ∧ s.setters 1 = .absent ∧
                        (step Skeleton.current s (.callRecover 1 eCallCtx)).isSome = false ∧
                        (step Skeleton.current s (.waiterGetsDone 0)).isSome = false)) = some true ∧
    (run Skeleton.current init
      [.callStart 0 5 2 0, .callReceive 0, .callSpawn 0, .callWrite 0, .waiterRecvCall 0,
       .ctxCancel 6,
       .callStart 1 6 2 0, .callReceive 1, .callSpawn 1, .callWrite 1, .waiterRecvCall 1,
       .waiterGetsCtx 1, .waiterSend 1, .waiterFree 1, .callTakeRes 1 false, .callReturnOk 1]).map
      (fun s => decide ((s.calls 1).outcome = .ok ⟨none, .ctxErr⟩ ∧ (s.calls 0).pc = .written ∧
                        s.bc.closed = false ∧ s.slot = none ∧ s.fatalLog = [])) = some true := by
  constructor <;> decide

/-- "…and the link stays healthy" rests on a second source fact: the stub panics (→ recover → `setErr`) only on
    failures of the link, never on an OUTCOME of the call (`panicSitesCanonical`, regenerated from the source).  As
    a behaviour of the model: with that ONE fact flipped, a call whose context ends while it is in flight (cancel or
    deadline — the waiter hands over the context's error) still returns that error, but on the way it stores it as
    the link's fatal error and closes the pending-call table under its sibling: `Link` returns the CALL's error. -/
theorem C04_panicking_on_a_call_outcome_ends_the_link :
    (run skPanicsOnOutcome init
      [.linkCheck,
       .callStart 0 5 2 0, .callReceive 0, .callSpawn 0, .callWrite 0, .waiterRecvCall 0,
       .callStart 1 6 2 0, .callReceive 1, .callSpawn 1, .callWrite 1, .waiterRecvCall 1,
       .ctxCancel 6,
       .waiterGetsCtx 1, .waiterSend 1, .waiterFree 1, .callTakeRes 1 false, .callRecover 1 eCallCtx,
       .setErrStore 1, .setErrClose 1, .linkWake, .linkReturn]).map
      (fun s => decide ((s.calls 1).outcome = .failed eCallCtx ∧ s.link = .returned (some eCallCtx) ∧
                        s.bc.closed = true ∧ (s.calls 0).pc = .written ∧ s.linkCtxDone = false)) = some true ∧
    Skeleton.current.panicSitesCanonical = true := by
  constructor <;> decide

/-- The same guarantees hold for a closure invocation made by a handler: it IS a call of M2 (the proxy
    goes through the very stub the theorems above are about) whose context is the one the handler passed
    to the callable — the proxy keeps it in a variable of its own, assigned from the invocation's first
    argument, and hands exactly that to the stub (checked against the regenerated skeleton); a proxy that
    used the link's context instead would ignore a per-invocation deadline.  And cancelling a call whose
    closure is still RUNNING returns promptly as well: releasing the closure takes the table's mutex,
    which `CallClosure` does not hold while the closure runs. -/
theorem C04_closure_invocations_are_cancellable :
    Skeleton.current.pxCtxIsInvocationCtx = true ∧ Skeleton.current.clInvokeOutsideLock = true ∧
    Skeleton.current.clLockIsMutex = true := by decide

/-- A cancelled closure-carrying call returns through its deferred release. The release function `registerClosure`
    returns runs DEFERRED on every exit path of a closure-carrying call; it only locks, deletes and unlocks — no wait,
    channel operation or select (checked against the regenerated skeleton) — and the lock it takes is not held while a
    closure body runs. -/
theorem C04_closure_release_never_waits :
    Skeleton.current.clFreeNeverWaits = true ∧ Skeleton.current.clInvokeOutsideLock = true := by decide

/-- A closure invocation made by a handler with a context that is done ALREADY is an ordinary call of M2 with a
    cancelled context (`C04_done_context_call_registers`): that needs `utils.Call` — through which the proxy calls the
    stub — to call it whatever its first argument is, and to hand its results back (checked against the regenerated
    skeleton). A `utils.Call` that returned the context's error itself would make the proxy panic, i.e. end the link. -/
theorem C04_done_context_reaches_the_stub :
    Skeleton.current.ucResultsUntouched = true ∧ Skeleton.current.panicSitesCanonical = true := by decide

/-- `C04_late_response_inert` is a theorem about M2's response loop, which hands every response to the pending-call
    table and moves on: a publisher that finds no entry, or whose entry's context is done, is a step that touches no
    call and never `setErr`. That is the code's response loop only if the publish is a statement of its own and the
    goroutine around it reports nothing (checked against the regenerated skeleton) — a loop that ends the link when an
    ERROR response finds no taker turns the late answer of a cancelled call into the end of every other call. -/
theorem C04_late_responses_are_dropped_whatever_they_carry :
    Skeleton.current.respPublishFireAndForget = true ∧ Skeleton.current.respPublishAsync = true := by decide

end Panrpc.Ep

#print axioms Panrpc.Ep.C04_closure_invocations_are_cancellable
#print axioms Panrpc.Ep.C04_panicking_on_a_call_outcome_ends_the_link

#print axioms Panrpc.Ep.C04_only_ctx_error
#print axioms Panrpc.Ep.C04_cancel_returns
#print axioms Panrpc.Ep.C04_concurrent_either
#print axioms Panrpc.Ep.C04_no_setErr
#print axioms Panrpc.Ep.C04_only_fatal_steps_touch_setErr
#print axioms Panrpc.Ep.C04_entry_freed
#print axioms Panrpc.Ep.C04_late_response_inert
#print axioms Panrpc.Ep.C04_others_unaffected
#print axioms Panrpc.Ep.C04_publishers_touch_no_call
#print axioms Panrpc.Ep.C04_receive_fails_only_when_closed
#print axioms Panrpc.Ep.C04_refusing_a_done_context_ends_the_link
#print axioms Panrpc.Ep.C04_done_context_call_registers
#print axioms Panrpc.Ep.C04_closure_release_never_waits
#print axioms Panrpc.Ep.C04_done_context_reaches_the_stub
#print axioms Panrpc.Ep.C04_late_responses_are_dropped_whatever_they_carry
