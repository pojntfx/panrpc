/-
  Props/C05.lean — "No timing of completion, cancel, late responses or shutdown crashes…".

  Model: M2 with M1 embedded: every interleaving of stub, waiter, publisher (one per response
  frame, duplicates and late ones included), cancel, free, close, closure release, `setErr` and
  Link steps.  `crashed` is set by the crash-capable steps: M1's send on a closed channel and
  close of a closed channel (reached through the projection onto M1), and a panic that leaves
  the stub un-recovered.  (`C05_user_panic_contained` is about the callee side, outside M2.)
-/
import Panrpc.Lemmas.EndpointCurrent
import Panrpc.Pinned

namespace Panrpc.Ep

/-- No reachable state of the endpoint is a crash — from M1's `NC` invariant through the
    projection lemma, plus: the stub recovers every panic on its own path. -/
theorem C05_no_crash : ∀ s, Reach Skeleton.current s → s.crashed = false ∧ s.bc.crashed = false :=
  fun _ h => ⟨reach_no_crash _ cur_live.recovers cur_hyg cur_nochanclose h,
              (reach_nc _ cur_hyg cur_nochanclose h).nocrash⟩

/-- Every reachable M2 state embeds a reachable M1 state (so all of C19's theorems apply to the
    link's pending-call table as used by the stubs). -/
theorem C05_projects_to_broadcaster : ∀ s, Reach Skeleton.current s → Bc.Reach Skeleton.current s.bc :=
  fun _ => reach_bc _

/-- The table lock is never held across a blocking operation, so `Free`, `Close`, `Receive`
    and `Publish`'s lookup are never blocked by a parked thread. -/
theorem C05_lock_never_held_across_select : ∀ s, Reach Skeleton.current s → s.bc.lockHolder = none :=
  fun _ => reach_lock_free _ cur_live.outside

/-! ### non-vacuity: the dangerous window, on the current tree: duplicate response, hand-off,
    free, and the second publisher standing at its select -/
example : (run Skeleton.current init
    [.callStart 0 5 2 0, .callReceive 0, .callSpawn 0, .callWrite 0, .waiterRecvCall 0,
     .respFrame 0 0 1 false, .respFrame 1 0 2 false, .pubLookup 0, .pubLookup 1,
     .waiterGetsValue 0 0, .waiterSend 0, .waiterFree 0]).map
    (fun s => decide (s.crashed = false ∧ s.bc.pubs 1 = .holding 0 2 0) &&
              (step Skeleton.current s (.pubSendClosed 1)).isNone &&
              (step Skeleton.current s (.pubCtx 1)).isSome) = some true := rfl

/-! ### the pinned tree violates the property (F1): same schedule, the process dies -/
theorem C05_fails_on_pinned : ∃ acts, (run Skeleton.pinned init acts).map (·.crashed) = some true :=
  ⟨[.callStart 0 5 2 0, .callReceive 0, .callSpawn 0, .callWrite 0, .waiterRecvCall 0,
    .respFrame 0 0 1 false, .respFrame 1 0 2 false, .pubLookup 0, .pubLookup 1,
    .waiterGetsValue 0 0, .waiterSend 0, .waiterFree 0, .pubSendClosed 1], rfl⟩

/-- "closure release": M2's `callReturn…` steps release the call's closures as part of the step.  In
    the source the release takes the closure table's mutex; `CallClosure` holds that mutex only for the
    look-up, never while the closure runs, and the table is touched by nothing else (checked against the
    regenerated skeleton) — so a release never waits for a running closure (no deadlock between a
    cancelled call and its own still-running closure, nor for a closure body that passes a closure on). -/
theorem C05_closure_release_never_waits_for_a_running_closure :
    Skeleton.current.clInvokeOutsideLock = true ∧ Skeleton.current.clLockIsMutex = true ∧
    Skeleton.current.clDeleteUnderLock = true ∧ Skeleton.current.clLookupUnderLock = true := by decide

/-- The same, as a property of the model (M2 has the mutex as `clLock` and the bodies of invoked closures
    as `running`; a hit of `closureInvoke` keeps the mutex across the body iff `clInvokeOutsideLock` is
    false): on the current tree the mutex is free in every reachable state — it is never held from one
    step to the next, however many closure bodies are running. -/
theorem C05_closure_lock_never_held_across_a_body : ∀ s, Reach Skeleton.current s → s.clLock = none :=
  fun _ => reach_cl_free _ cur_live.invokeOutside

/-- Hence the release step of a call is never disabled by a running closure: whenever a call stands
    before its return — normal (`decoded`) or panicking, e.g. after its context was cancelled or the
    link ended — the return step is enabled, the call is `returned` after it and every closure it had
    passed is out of the table; nothing is assumed about `s.running` (the call's own closures may be
    running at that moment: see the example below). -/
theorem C05_release_never_disabled_by_a_running_closure : ∀ s, Reach Skeleton.current s → ∀ c,
    ((s.calls c).pc = .decoded →
      ∃ s', step Skeleton.current s (.callReturnOk c) = some s' ∧ (s'.calls c).pc = .returned ∧
        ∀ id, id ∈ (s.calls c).closures → s'.closures id = false) ∧
    (∀ e, (s.calls c).pc = .panicking e →
      ∃ s', step Skeleton.current s (.callRecover c e) = some s' ∧ (s'.calls c).pc = .returned ∧
        ∀ id, id ∈ (s.calls c).closures → s'.closures id = false) := by
  intro s h c
  have hd : Skeleton.current.stubClosureFreeDeferred = true := by decide
  refine ⟨fun hp => ⟨_, callReturnOk_enabled _ cur_live h c hp, by simp, ?_⟩,
          fun e hp => ⟨_, callRecover_enabled _ cur_live h c e hp, by simp, ?_⟩⟩ <;>
    (intro id hm; simp [freeClosures, hd, hm])

/-- the prefix of the witnesses below: call 0 passes closure 0 and is in flight, the peer invokes the
    closure (thread 9: a hit, the body is running), the caller's context is cancelled and call 0 gets as
    far as its return (`decoded`, outcome: the context error) -/
def cancelWhileClosureRuns : List Act :=
  [.callStart 0 5 2 1, .callReceive 0, .callSpawn 0, .callWrite 0, .waiterRecvCall 0,
   .closureInvoke 9 0, .ctxCancel 5, .ctxPropagate 0,
   .waiterGetsCtx 0, .waiterSend 0, .waiterFree 0, .callTakeRes 0 false]

/-- …and the link ends instead (panic path): call 0 is `panicking eLinkCtx`, before `callRecover` -/
def linkEndsWhileClosureRuns : List Act :=
  [.callStart 0 5 2 1, .callReceive 0, .callSpawn 0, .callWrite 0, .waiterRecvCall 0,
   .closureInvoke 9 0, .cancelLink, .callLinkCtx 0]

/-- non-vacuity of `C05_release_never_disabled_by_a_running_closure`, on the current tree: the body of
    call 0's closure is running, nobody holds the mutex, the return is enabled on both paths -/
example : (run Skeleton.current init cancelWhileClosureRuns).map
    (fun s => decide (s.invokes = [⟨9, 0, true⟩] ∧ s.running 9 = some 0 ∧ s.clLock = none ∧
                      (s.calls 0).pc = .decoded ∧ (s.calls 0).outcome = .ok ⟨none, .ctxErr⟩ ∧
                      (step Skeleton.current s (.callReturnOk 0)).isSome = true)) = some true := rfl
example : (run Skeleton.current init linkEndsWhileClosureRuns).map
    (fun s => decide (s.running 9 = some 0 ∧ s.clLock = none ∧ (s.calls 0).pc = .panicking eLinkCtx ∧
                      (step Skeleton.current s (.callRecover 0 eLinkCtx)).isSome = true)) = some true := rfl

/-- What the fact protects against, as a behaviour of the model: on the current tree with that ONE fact
    flipped (`CallClosure`: `Lock(); defer Unlock()`), after the very same steps the invoking thread 9
    holds the mutex across the body of closure 0.  The cancelled call 0 has its result (the context
    error) but cannot return: `callReturnOk 0` — the deferred `freeClosure()` — is NOT enabled while the
    body runs, and becomes enabled only once the body has returned (`closureBodyDone 9`).  Likewise on
    the panic path (the link ended): `callRecover 0 eLinkCtx` is not enabled, so the error is not even
    reported to `setErr`, until the body returns.  A cancelled call waits for user code of unbounded
    duration; if that body itself waits for the call's return (or makes a closure-carrying call, see
    `C02_lock_held_across_closure_blocks_other_calls`), this is a deadlock. -/
theorem C05_lock_held_across_closure_blocks_release :
    (run skLockAcrossClosure init cancelWhileClosureRuns).map
      (fun s => decide (s.invokes = [⟨9, 0, true⟩] ∧ s.running 9 = some 0 ∧ s.clLock = some 9 ∧
                        (s.calls 0).pc = .decoded ∧ (s.calls 0).outcome = .ok ⟨none, .ctxErr⟩ ∧
                        (step skLockAcrossClosure s (.callReturnOk 0)).isSome = false)) = some true ∧
    (run skLockAcrossClosure init (cancelWhileClosureRuns ++ [.closureBodyDone 9])).map
      (fun s => decide (s.running 9 = none ∧ s.clLock = none ∧
                        (step skLockAcrossClosure s (.callReturnOk 0)).isSome = true)) = some true ∧
    (run skLockAcrossClosure init linkEndsWhileClosureRuns).map
      (fun s => decide (s.clLock = some 9 ∧ (s.calls 0).pc = .panicking eLinkCtx ∧
                        (step skLockAcrossClosure s (.callRecover 0 eLinkCtx)).isSome = false)) = some true ∧
    (run skLockAcrossClosure init (linkEndsWhileClosureRuns ++ [.closureBodyDone 9])).map
      (fun s => decide ((step skLockAcrossClosure s (.callRecover 0 eLinkCtx)).isSome = true)) = some true := by
  refine ⟨?_, ?_, ?_, ?_⟩ <;> decide

/-- The same for a release that WAITS for running invocations (`clFreeNeverWaits` flipped): the mutex is free, yet
    the cancelled call (normal path) and the call whose link ended (panic path) cannot return while the peer's
    handler is inside the closure — and can as soon as the body is done.  On the panic path the stub has not
    reached `setErr` yet: `Link` keeps blocking on a dead link and a LATER failure is stored first. -/
theorem C05_release_that_waits_blocks_the_call :
    (run skFreeWaits init cancelWhileClosureRuns).map
      (fun s => decide (s.running 9 = some 0 ∧ s.clLock = none ∧ (s.calls 0).pc = .decoded ∧
                        (step skFreeWaits s (.callReturnOk 0)).isSome = false ∧
                        (step Skeleton.current s (.callReturnOk 0)).isSome = true)) = some true ∧
    (run skFreeWaits init (cancelWhileClosureRuns ++ [.closureBodyDone 9])).map
      (fun s => decide ((step skFreeWaits s (.callReturnOk 0)).isSome = true)) = some true ∧
    (run skFreeWaits init linkEndsWhileClosureRuns).map
      (fun s => decide (s.clLock = none ∧ (s.calls 0).pc = .panicking eLinkCtx ∧ s.fatalLog = [] ∧
                        (step skFreeWaits s (.callRecover 0 eLinkCtx)).isSome = false ∧
                        (step Skeleton.current s (.callRecover 0 eLinkCtx)).isSome = true)) = some true ∧
    (run skFreeWaits init (linkEndsWhileClosureRuns ++ [.closureBodyDone 9])).map
      (fun s => decide ((step skFreeWaits s (.callRecover 0 eLinkCtx)).isSome = true)) = some true := by
  refine ⟨?_, ?_, ?_, ?_⟩ <;> decide

/-- "…any number of times, also concurrently": with the closure's wrapper itself in the table two threads are inside
    the SAME closure at once; with a serialising wrapper around it (`clStoresCreatedClosure` flipped) the second
    invocation is not let in while the first one runs — if the first waits for the second (a rendezvous, a chain that
    re-enters the closure) that is a deadlock inside panrpc — and is let in once the first body is done. -/
theorem C05_serialised_closure_keeps_the_second_invocation_out :
    (run Skeleton.current init [.callStart 0 5 2 1, .callReceive 0, .callSpawn 0, .callWrite 0, .waiterRecvCall 0,
                                .closureInvoke 9 0, .closureInvoke 8 0]).map
      (fun s => decide (s.running 9 = some 0 ∧ s.running 8 = some 0)) = some true ∧
    (run skSerialisedClosure init [.callStart 0 5 2 1, .callReceive 0, .callSpawn 0, .callWrite 0, .waiterRecvCall 0,
                                   .closureInvoke 9 0]).map
      (fun s => decide (s.running 9 = some 0 ∧ (step skSerialisedClosure s (.closureInvoke 8 0)).isSome = false)) = some true ∧
    (run skSerialisedClosure init [.callStart 0 5 2 1, .callReceive 0, .callSpawn 0, .callWrite 0, .waiterRecvCall 0,
                                   .closureInvoke 9 0, .closureBodyDone 9]).map
      (fun s => decide ((step skSerialisedClosure s (.closureInvoke 8 0)).isSome = true)) = some true := by
  refine ⟨?_, ?_, ?_⟩ <;> decide

/-- `utils.Call` is one reflect call under a deferred recover: nothing in it can wait and it touches no
    package-level state (checked against the regenerated skeleton) — handlers nest `utils.Call` (a handler
    invoking a closure), so anything acquired there and held across the call could exhaust and deadlock. -/
theorem C05_reflect_call_never_waits : Skeleton.current.ucNoWaiting = true ∧ Skeleton.current.stateGlobals = [] := by decide

/-- Panics on the stub's, the proxy's and the handler goroutine's own path are recovered, converted and
    reported in the canonical way (see `C03_recover_blocks_canonical`). -/
theorem C05_recover_blocks_canonical : Skeleton.current.recoverBlocksCanonical = true := by decide

/-- The release function `registerClosure` returns runs DEFERRED on every exit path of a closure-carrying call; it only
    locks, deletes and unlocks — no wait, channel operation or select (checked against the regenerated skeleton) — and
    the lock it takes is not held while a closure body runs. -/
theorem C05_closure_release_never_waits :
    Skeleton.current.clFreeNeverWaits = true ∧ Skeleton.current.clInvokeOutsideLock = true := by decide

/-- `Receive` fails only on a closed table — a context that is done already is registered and reported through the
    receive function, to that one caller — and the stub panics only on failures of the link (both checked against the
    regenerated skeleton; `utils/broadcaster.go` is outside this property's anchors). Otherwise a handler that invokes a
    callable (or makes any call) with a context of its own that has expired ends the link. -/
theorem C05_expired_context_at_call_time_is_not_fatal :
    Skeleton.current.bcReceiveErrorsOnlyClosed = true ∧ Skeleton.current.panicSitesCanonical = true := by decide

end Panrpc.Ep

#print axioms Panrpc.Ep.C05_closure_release_never_waits_for_a_running_closure
#print axioms Panrpc.Ep.C05_closure_lock_never_held_across_a_body
#print axioms Panrpc.Ep.C05_release_never_disabled_by_a_running_closure
#print axioms Panrpc.Ep.C05_lock_held_across_closure_blocks_release
#print axioms Panrpc.Ep.C05_release_that_waits_blocks_the_call
#print axioms Panrpc.Ep.C05_serialised_closure_keeps_the_second_invocation_out

#print axioms Panrpc.Ep.C05_no_crash
#print axioms Panrpc.Ep.C05_projects_to_broadcaster
#print axioms Panrpc.Ep.C05_lock_never_held_across_select
#print axioms Panrpc.Ep.C05_fails_on_pinned
#print axioms Panrpc.Ep.C05_reflect_call_never_waits
#print axioms Panrpc.Ep.C05_recover_blocks_canonical
#print axioms Panrpc.Ep.C05_closure_release_never_waits
#print axioms Panrpc.Ep.C05_expired_context_at_call_time_is_not_fatal
