/-
  Props/C05Callee.lean — C05, callee side: "a panic of user code (handler or closure) and a reflect
  panic during the lookup surface as an error on the link or on the closure call, never as a
  process crash".

  Model: Model/Callee.lean, the life of ONE incoming request on the callee (resolve goroutine →
  handler goroutine → `utils.Call` → `switch len(res)` → marshal → writeResponse), with `setErr`
  calls, responses written and `crashed` as ghost fields.  `cid` is `req.Call`, `cl` says whether the
  request resolves to the closure manager's `CallClosure`.  The property theorems are about `Skeleton.current`
  (the witness theorems say in their statements which other skeleton they are about).
-/
import Panrpc.Lemmas.CalleeCurrent
import Panrpc.Pinned

namespace Panrpc.Ce

/-- No reachable state of a request's life is a crash: no goroutine of the request ever dies with a
    panic (lookup panics are recovered in the lookup; the function runs under `utils.Call`). -/
theorem C05_callee_no_crash (cid : String) (cl : Bool) :
    ∀ s, Reach Skeleton.current cid cl s → s.crashed = false ∧ s.pc ≠ .panicked :=
  fun _ h => ⟨(reach_good _ cur_hyp h).nocrash, (reach_good _ cur_hyp h).npanic⟩

/-- (a) A panic of the invoked function, with an `error` value or any other: exactly one `setErr`
    (cause: the error `utils.Call` returned), nothing is written, the process lives.
    (b) A panic of the user's closure inside `CallClosure`: `CallClosure` RETURNS `(nil, err)` with
    `err.Error() = p.msg`; no `setErr`; unless marshal or write fail afterwards, every continuation
    stays without `setErr` and ends with the single response `(req.Call, p.msg)`; that end is
    reachable; and `p.msg` is non-empty unless the closure panicked with an error whose message is empty. -/
theorem C05_user_panic_contained (cid : String) (cl : Bool) (s s' : State) (p : PanicVal)
    (h : Reach Skeleton.current cid cl s) :
    (step Skeleton.current s (.handlerPanics p) = some s' →
        s'.setErrCalls = [.handlerPanic] ∧ s'.responses = [] ∧ s'.crashed = false ∧ s'.pc = .done)
    ∧ (step Skeleton.current s (.closurePanics p) = some s' →
        s'.pc = .returned (.two (some p.msg)) ∧ s'.setErrCalls = [] ∧ s'.responses = [] ∧
        s'.crashed = false ∧
        run Skeleton.current s' [.marshalOk, .respond]
          = some { s' with pc := .done, responses := [(cid, p.msg)] } ∧
        (∀ (acts : List Act) (s'' : State), run Skeleton.current s' acts = some s'' →
          Act.marshalFails ∉ acts → Act.writeFails ∉ acts →
          s''.setErrCalls = [] ∧ s''.crashed = false ∧
          s''.responses = (if s''.pc = .done then [(cid, p.msg)] else [])) ∧
        ((∀ m, p = .err m → m ≠ "") → p.msg ≠ "")) :=
  ⟨fun hs => handlerPanics_contained _ cur_hyp cur_mapped cur_callErr p h hs,
   fun hs =>
    have c := closurePanics_contained _ cur_hyp cur_resp cur_clVia cur_mapped p h hs
    ⟨c.1, c.2.1, c.2.2.1, c.2.2.2.1, c.2.2.2.2.1, c.2.2.2.2.2, p.msg_ne_empty⟩⟩

/-- A reflect panic during the lookup never leaves its goroutine (`lkRecoversPanics ∨
    reqResolverRecovers`); it ends the request with one `setErr`, before any application code ran. -/
theorem C05_lookup_panic_contained (cid : String) (cl : Bool) (s s' : State)
    (h : Reach Skeleton.current cid cl s) (hs : step Skeleton.current s .resolvePanics = some s') :
    s'.crashed = false ∧ s'.pc ≠ .panicked ∧
    s'.setErrCalls = [.lookupPanic] ∧ s'.responses = [] ∧ s'.pc = .done ∧ s'.appCodeRan = false := by
  have n := resolvePanics_no_crash _ cur_contained hs
  have c := resolvePanics_contained _ cur_hyp cur_resolveErr h hs
  exact ⟨c.2.2.1, n.2.1, c.1, c.2.1, c.2.2.2.1, c.2.2.2.2⟩

/-- Neither the lookup nor the function runs on the request loop's goroutine: while a request is
    being served (or its handler is stuck in user code) the loop keeps reading. -/
theorem C05_request_loop_not_occupied (s : State) : onLoopGoroutine Skeleton.current s = false :=
  onLoop_false _ cur_resolveGo cur_handlerGo s

/-! ### non-vacuity: the steps the theorems speak about are enabled in reachable states -/

/-- handler panics with an error value / with a string -/
example : (run Skeleton.current (init "c1" false) [.resolveOk, .start, .handlerPanics (.err "boom")]).map
    (fun s => (s.pc, s.setErrCalls, s.responses, s.crashed, s.appCodeRan))
    = some (.done, [.handlerPanic], [], false, true) := rfl
example : (run Skeleton.current (init "c1" false) [.resolveOk, .start, .handlerPanics .other]).map
    (fun s => (s.pc, s.setErrCalls, s.responses, s.crashed)) = some (.done, [.handlerPanic], [], false) := rfl
/-- the user's closure panics with a non-error value: an ordinary error response, the link lives -/
example : (run Skeleton.current (init "c2" true)
      [.resolveOk, .start, .closurePanics .other, .marshalOk, .respond]).map
    (fun s => (s.pc, s.setErrCalls, s.responses, s.crashed))
    = some (.done, [], [("c2", "panicked with no error value")], false) := rfl
example : (run Skeleton.current (init "c2" true)
      [.resolveOk, .start, .closurePanics (.err "runtime error: integer divide by zero"), .marshalOk, .respond]).map
    (fun s => (s.setErrCalls, s.responses)) = some ([], [("c2", "runtime error: integer divide by zero")]) := rfl
/-- a panic of the wrapper outside the inner `utils.Call` (e.g. `Convert`) is a handler panic: fatal for the link, not for the process -/
example : (run Skeleton.current (init "c2" true) [.resolveOk, .start, .handlerPanics (.err "reflect")]).map
    (fun s => (s.setErrCalls, s.crashed)) = some ([.handlerPanic], false) := rfl
/-- `closurePanics` is not enabled on an ordinary entry; `CallClosure` returns two results -/
example : run Skeleton.current (init "c1" false) [.resolveOk, .start, .closurePanics .other] = none := rfl
example : run Skeleton.current (init "c2" true) [.resolveOk, .start, .handlerReturns .oneVal] = none := rfl
/-- lookup panic / lookup error -/
example : (run Skeleton.current (init "c3" false) [.resolvePanics]).map
    (fun s => (s.pc, s.setErrCalls, s.crashed, s.appCodeRan)) = some (.done, [.lookupPanic], false, false) := rfl
example : (run Skeleton.current (init "c3" false) [.resolveFails]).map
    (fun s => (s.pc, s.setErrCalls, s.crashed, s.appCodeRan)) = some (.done, [.resolveError], false, false) := rfl

/-! ### the source facts are load-bearing -/

/-- The pinned tree (F: no recover in the lookup, none in the goroutine): a lookup panic kills the process. -/
theorem C05_lookup_panic_fails_on_pinned :
    (run Skeleton.pinned (init "c3" false) [.resolvePanics]).map (·.crashed) = some true := by decide

/-- `function.Call(args)` instead of `utils.Call(function, args)`: a handler panic kills the process -/
example : (run { Skeleton.current with reqCallViaUtilsCall := false } (init "c" false)
    [.resolveOk, .start, .handlerPanics (.err "boom")]).map (fun s => (s.pc, s.crashed)) = some (.panicked, true) := rfl
/-- `utils.Call` without its `recover()`: handler panics and closure panics kill the process -/
example : (run { Skeleton.current with ucRecovers := false } (init "c" false)
    [.resolveOk, .start, .handlerPanics .other]).map (·.crashed) = some true := rfl
example : (run { Skeleton.current with ucRecovers := false } (init "c" true)
    [.resolveOk, .start, .closurePanics .other]).map (·.crashed) = some true := rfl
/-- without `if err != nil { setErr(err); return }` after `utils.Call` the panic is answered as a SUCCESS -/
example : (run { Skeleton.current with reqCallErrSetErr := false } (init "c" false)
    [.resolveOk, .start, .handlerPanics (.err "boom"), .marshalOk, .respond]).map
    (fun s => (s.setErrCalls, s.responses)) = some ([], [("c", "")]) := rfl
/-- without the `ErrPanickedWithNonErrorValue` mapping `panic("x")` is answered as a SUCCESS … -/
example : (run { Skeleton.current with ucNonErrorPanicMapped := false } (init "c" false)
    [.resolveOk, .start, .handlerPanics .other, .marshalOk, .respond]).map
    (fun s => (s.setErrCalls, s.responses)) = some ([], [("c", "")]) := rfl
/-- … and in a closure it ends the link (`out[1]` of an empty slice) instead of failing the closure call -/
example : (run { Skeleton.current with ucNonErrorPanicMapped := false } (init "c" true)
    [.resolveOk, .start, .closurePanics .other]).map
    (fun s => (s.pc, s.setErrCalls)) = some (.done, [.handlerPanic]) := rfl
/-- the wrapper calling the closure directly: a closure panic ends the link instead of failing the call -/
example : (run { Skeleton.current with clCallViaUtilsCall := false } (init "c" true)
    [.resolveOk, .start, .closurePanics (.err "boom")]).map
    (fun s => (s.pc, s.setErrCalls, s.responses)) = some (.done, [.handlerPanic], []) := rfl
/-- without the check after the lookup a refused request reaches application code -/
example : (run { Skeleton.current with reqResolveErrSetErr := false } (init "c" false)
    [.resolveFails, .start]).map (fun s => (s.setErrCalls, s.appCodeRan)) = some ([], true) := rfl
/-- handler inline in the loop: the loop is occupied while user code runs -/
example : (run { Skeleton.current with reqHandlerGoDepth := 0, reqResolveGoDepth := 0 } (init "c" false)
    [.resolveOk, .start]).map (onLoopGoroutine { Skeleton.current with reqHandlerGoDepth := 0, reqResolveGoDepth := 0 })
    = some true := rfl

/-- The callee model takes the `Error()` method of a returned error and the result-shape assertions
    (`.(error)`, `IsNil`) as non-panicking.  In the source they run in the handler goroutine AFTER
    `utils.Call` returned; that goroutine has its own deferred `recover → setErr`, so a panic there —
    e.g. a typed-nil error whose `Error()` dereferences its receiver — ends the link with an error and
    not the process (checked against the regenerated skeleton; false on the pinned tree: F10). -/
theorem C05_response_building_recovered :
    Skeleton.current.reqHandlerRecovers = true ∧ Skeleton.pinned.reqHandlerRecovers = false := by decide

end Panrpc.Ce

#print axioms Panrpc.Ce.C05_callee_no_crash
#print axioms Panrpc.Ce.C05_user_panic_contained
#print axioms Panrpc.Ce.C05_lookup_panic_contained
#print axioms Panrpc.Ce.C05_request_loop_not_occupied
#print axioms Panrpc.Ce.C05_lookup_panic_fails_on_pinned
#print axioms Panrpc.Ce.C05_response_building_recovered
