/-
  Props/C05Deadlock.lean — C05, the clause "No relative timing of response arrival, per-call
  cancellation, duplicate or late responses, closure release and link shutdown can make panrpc …
  leave its internal goroutines deadlocked".

  Model: M2 (Model/Endpoint.lean) with M1 embedded.  The internal threads are the stubs (call
  threads inside the generated function), the per-call waiters, the `Publish` goroutines (one per
  response frame, duplicates and late ones included), the threads inside `setErr` and the Link
  thread (`Thread`, Lemmas/EndpointProgress.lean).  `actThreads a` says whose own step an action is;
  all other actions are the environment: the application (`callStart`, `ctxCancel`, `cancelLink`),
  the peer/transport (`respFrame`, `closureInvoke`, `setErrEnter` = a loop reporting a failed
  read/write), the application's closure bodies returning (`closureBodyDone`), the `context` package (`ctxPropagate`), the ctx watcher starting (`watcher`).

      live s th      started and not finished
      parked s th    at a blocking operation: the stub's select, the receive function's select,
                     Publish's select, Cond.Wait
      CanStep s th   some own step of th is enabled
      Blocked s th   live and ¬ CanStep
      waitsOn s th th'   an own step of th' can be what th is parked for:
                     stub c → waiter c;  waiter c → a publisher of call id c before its lookup, any setter;
                     publisher of call id c → waiter c, any setter;  Link → any setter

  The property theorems are about `Skeleton.current` (the witness theorems say in their statements which other
  skeleton they are about), from the general lemmas in Lemmas/EndpointProgress.lean
  plus `by decide` facts (`cur_prog`).
-/
import Panrpc.Lemmas.EndpointProgress
import Panrpc.Lemmas.EndpointCurrent
import Panrpc.Pinned

namespace Panrpc.Ep

/-- **No internal deadlock.**  In every reachable state, every internal thread that has started
    and not finished
      * has an enabled own step, or
      * is parked at one of the four blocking operations, and then
          - whatever step gives it an enabled step again is a context event (the application
            cancels a call's or the link's context) or an own step of a thread it waits on
            (for a waiter: the lookup of a publisher spawned for a response frame of its call id,
            or the `Close` of a `setErr`; for a publisher: its call's waiter entering the select
            or freeing the entry, or that `Close`; for Link: the store of a `setErr`; for a stub:
            its waiter's send), and
          - every live thread it waits on has an enabled own step — the one exception being the
            waiter of a parked stub, which may itself be parked inside the receive function
            (and to which this same statement applies: it is not waiting for the stub).
    So no set of internal threads waits on one another: see `C05_no_wait_cycle`. -/
theorem C05_no_internal_deadlock : ∀ s, Reach Skeleton.current s → ∀ th, live s th = true →
    CanStep Skeleton.current s th ∨
    ( parked s th = true ∧
      (∀ a s', step Skeleton.current s a = some s' → CanStep Skeleton.current s' th →
          isCtxEvent a = true ∨ ∃ th', th' ∈ actThreads a ∧ waitsOn s th th') ∧
      (∀ th', waitsOn s th th' → live s th' = true →
          CanStep Skeleton.current s th' ∨ ∃ c, th = .stub c ∧ th' = .waiter c) ) := by
  intro s hr th hl
  by_cases hc : CanStep Skeleton.current s th
  · exact Or.inl hc
  · have hb : Blocked Skeleton.current s th := ⟨hl, hc⟩
    exact Or.inr ⟨blocked_parked _ cur_prog hr th hb,
      fun a s' hs hc' => unblock_cause _ cur_prog hr a hs th hb hc',
      awaited_can_step _ cur_prog hr th⟩

/-- A thread that is not at a blocking operation always has an enabled own step: the waiter at
    `start`/`have`/`sent` (`have`: `res` is buffered), a publisher before its lookup, every thread
    inside `setErr`, the Link thread outside `Cond.Wait`, the stub outside its select.  In
    particular nobody ever waits for the table mutex or for `closuresLock`. -/
theorem C05_only_blocking_ops_block : ∀ s, Reach Skeleton.current s → ∀ th, live s th = true →
    parked s th = false → CanStep Skeleton.current s th :=
  fun _ => not_parked_can_step _ cur_prog

/-- Threads inside `setErr` are never blocked (they are what everybody else may be waiting for). -/
theorem C05_setters_never_block : ∀ s, Reach Skeleton.current s → ∀ t, live s (.setter t) = true →
    CanStep Skeleton.current s (.setter t) :=
  fun _ => setter_can_step _ cur_prog

/-- No cycle publisher ↔ waiter: if a publisher holds the entry of call `c` and waiter `c` is
    inside the receive function, the hand-off is enabled. -/
theorem C05_rendezvous_enabled : ∀ s, Reach Skeleton.current s → ∀ c p v g,
    s.bc.pubs p = .holding c v g → s.waiters c = .recv →
    ∃ s', step Skeleton.current s (.waiterGetsValue c p) = some s' :=
  fun _ => rendezvous_enabled _ cur_prog

/-- No wait-for cycle among blocked threads: a chain blocked → blocked → … has at most two
    members (a stub and its waiter), and no two blocked threads wait for each other. -/
theorem C05_no_wait_cycle : ∀ s, Reach Skeleton.current s → ∀ th th',
    Blocked Skeleton.current s th → waitsOn s th th' → Blocked Skeleton.current s th' →
    ¬ waitsOn s th' th ∧ ∀ th'', waitsOn s th' th'' → ¬ Blocked Skeleton.current s th'' :=
  fun _ hr th th' hb hw hb' =>
    ⟨no_mutual_wait _ cur_prog hr th th' hb hw hb',
     fun th'' hw' => no_blocked_chain _ cur_prog hr th th' th'' hw hb' hw'⟩

/-- A blocked waiter waits for an external event: its entry is still live, its context is not
    done and no publisher stands at its channel (no response frame for it is being delivered) —
    and cancelling its context gives it an enabled step at once. -/
theorem C05_blocked_waiter_waits_for_outside : ∀ s, Reach Skeleton.current s → ∀ c,
    Blocked Skeleton.current s (.waiter c) →
    (∃ g, WQuiet s c g) ∧
    ∃ s', step Skeleton.current s (.ctxCancel (s.calls c).ctx) = some s' ∧
      CanStep Skeleton.current s' (.waiter c) := by
  intro s hr c hb
  have hw := parked_waiter.mp (blocked_parked _ cur_prog hr _ hb)
  exact ⟨(wq_iff _ cur_prog hr c hw).1 hb.2, cancel_wakes_waiter _ cur_live hr c hw⟩

/-- What can end the wait of a blocked waiter, exactly — three kinds of step and no other:
    the application cancels the call's context; a `Publish` goroutine spawned for a response
    frame of this call id does its table lookup (frame arrival); a `setErr` closes the
    pending-call table (link end).  No step of a stub, of another call's waiter, of a publisher
    of another call id, or of the Link thread can. -/
theorem C05_waiter_woken_only_by : ∀ s, Reach Skeleton.current s → ∀ a s' c,
    step Skeleton.current s a = some s' → Blocked Skeleton.current s (.waiter c) →
    CanStep Skeleton.current s' (.waiter c) →
    a = .ctxCancel (s.calls c).ctx ∨ (∃ p v, a = .pubLookup p ∧ s.bc.pubs p = .start c v) ∨
    ∃ t, a = .setErrClose t :=
  fun _ hr a _ c hs hb hc => wakesWaiter_cases (waiter_wakers _ cur_prog hr a hs c hb hc)

/-- What can end the wait of a blocked publisher of call id `k`, exactly: waiter `k` enters the
    receive function (then the hand-off is enabled) or frees the entry, a `setErr` closes the
    table, or the `context` package hands the cancellation of the call's context on to the entry. -/
theorem C05_publisher_woken_only_by : ∀ s, Reach Skeleton.current s → ∀ a s' p k v g,
    step Skeleton.current s a = some s' → s.bc.pubs p = .holding k v g →
    ¬ CanStep Skeleton.current s (.pub p) → CanStep Skeleton.current s' (.pub p) →
    a = .waiterRecvCall k ∨ a = .waiterFree k ∨ (∃ t, a = .setErrClose t) ∨ ∃ g', a = .ctxPropagate g' :=
  fun _ hr a _ p k v g hs hpb hb hc => wakesPub_cases (pub_wakers _ cur_prog hr a hs p k v g hpb hb hc)

/-- A blocked publisher holds a live entry whose context is not done, with nobody at the other
    end of the channel; the call's waiter is live (and then has an enabled step, by
    `C05_no_internal_deadlock`), or is about to be spawned by a stub standing right before its
    `go` statement. -/
theorem C05_blocked_publisher_waits_for_its_waiter : ∀ s, Reach Skeleton.current s → ∀ p k v g,
    s.bc.pubs p = .holding k v g → ¬ CanStep Skeleton.current s (.pub p) →
    PQuiet s p k v g ∧ s.bc.table k = some g ∧
    (live s (.waiter k) = true ∨ (s.waiters k = .absent ∧ (s.calls k).pc = .registered)) := by
  intro s hr p k v g hp hb
  exact ⟨pq_of_blocked _ cur_prog hr p k v g hp hb,
         blocked_pub_has_waiter _ cur_prog hr p k v g hp hb⟩

/-- A blocked stub waits for its waiter or for the link context; cancelling the link context
    gives it an enabled step at once. -/
theorem C05_blocked_stub_waits_for_waiter_or_link : ∀ s, Reach Skeleton.current s → ∀ c,
    Blocked Skeleton.current s (.stub c) →
    SQuiet s c ∧ s.waiters c ≠ .absent ∧
    ∃ s', step Skeleton.current s .cancelLink = some s' ∧ CanStep Skeleton.current s' (.stub c) := by
  intro s hr c hb
  have hpc := parked_stub.mp (blocked_parked _ cur_prog hr _ hb)
  exact ⟨sq_of_blocked _ cur_live hr c hpc hb.2, (reach_ri _ hr c).has_waiter (Or.inr hpc),
         cancelLink_wakes_stub _ cur_live hr c hpc⟩

/-- The Link thread is blocked only while the link is healthy: parked in `Cond.Wait` with no
    error stored yet; it waits for the first `setErrStore` and nothing else (`C16_prompt` takes
    over from there). -/
theorem C05_blocked_link_is_healthy : ∀ s, Reach Skeleton.current s →
    Blocked Skeleton.current s .link → s.link = .waiting ∧ s.fatalLog = [] :=
  fun _ => blocked_link_healthy _ cur_prog

/-! ### non-vacuity -/

/-- a parked waiter with nothing to do (call written, no response yet): none of its select cases
    is enabled; after the application cancels the call's context one is -/
example : (run Skeleton.current init
    [.callStart 0 5 2 0, .callReceive 0, .callSpawn 0, .callWrite 0, .waiterRecvCall 0]).map
    (fun s => live s (.waiter 0) && parked s (.waiter 0) &&
              (step Skeleton.current s (.waiterGetsDone 0)).isNone &&
              (step Skeleton.current s (.waiterGetsCtx 0)).isNone &&
              (step Skeleton.current s (.waiterGetsValue 0 0)).isNone &&
              ((step Skeleton.current s (.ctxCancel 5)).bind
                (fun s' => step Skeleton.current s' (.waiterGetsCtx 0))).isSome) = some true := rfl

/-- a parked publisher whose waiter has not entered the receive function yet: neither of its select
    cases is enabled; the waiter's next own step (`waiterRecvCall`) is, and enables the hand-off -/
example : (run Skeleton.current init
    [.callStart 0 5 2 0, .callReceive 0, .callSpawn 0, .callWrite 0, .respFrame 0 0 1 false, .pubLookup 0]).map
    (fun s => live s (.pub 0) && parked s (.pub 0) &&
              (step Skeleton.current s (.pubCtx 0)).isNone &&
              (step Skeleton.current s (.pubSendClosed 0)).isNone &&
              (step Skeleton.current s (.waiterGetsValue 0 0)).isNone &&
              ((step Skeleton.current s (.waiterRecvCall 0)).bind
                (fun s' => step Skeleton.current s' (.waiterGetsValue 0 0))).isSome) = some true := rfl

/-- the Link thread parked on a healthy link; a `setErr` store wakes it -/
example : (run Skeleton.current init [.linkCheck, .setErrEnter 9 0]).map
    (fun s => live s .link && parked s .link && (step Skeleton.current s .linkWake).isNone &&
              ((step Skeleton.current s (.setErrStore 9)).bind
                (fun s' => step Skeleton.current s' .linkWake)).isSome) = some true := rfl

/-! ### the pinned tree violates the property (F5): an internal goroutine blocked for good -/

/-- On the pinned tree (`res` unbuffered) the schedule of `C15_waiter_stranded_on_pinned` — the call
    leaves through the link context while its waiter is still inside the receive function —
    reaches a state in which the waiter goroutine is live, has no enabled own step, and waits on
    nobody: in every state any run can reach from there it is still live and still has no enabled
    step (`stranded_forever`).  That *is* an internal deadlock. -/
theorem C05_internal_deadlock_on_pinned : ∃ s, Reach Skeleton.pinned s ∧
    Blocked Skeleton.pinned s (.waiter 0) ∧
    ∀ acts s', run Skeleton.pinned s acts = some s' → Blocked Skeleton.pinned s' (.waiter 0) := by
  let acts : List Act :=
    [.callStart 0 5 2 0, .callReceive 0, .callSpawn 0, .callWrite 0, .waiterRecvCall 0,
     .cancelLink, .callLinkCtx 0, .callRecover 0 eLinkCtx, .setErrClose 0, .setErrStore 0,
     .waiterGetsDone 0]
  have hw : (run Skeleton.pinned init acts).map
      (fun s => decide ((s.calls 0).pc = .returned ∧ s.waiters 0 = .have ⟨none, .closed⟩)) = some true := by
    decide
  obtain ⟨s, hrun, hw⟩ := Option.map_eq_some_iff.mp hw
  obtain ⟨hpc, hwt⟩ := of_decide_eq_true hw
  refine ⟨s, reach_of_run _ acts Reach.init hrun, stranded_blocked _ (by decide) 0 _ hpc hwt, ?_⟩
  intro acts' s' h
  obtain ⟨g1, g2⟩ := runFrom_invariant (P := fun t => (t.calls 0).pc = .returned ∧ t.waiters 0 = .have ⟨none, .closed⟩)
    (fun _ a _ hp hs => stranded_forever _ (by decide) a hs 0 _ hp.1 hp.2) acts' ⟨hpc, hwt⟩ h
  exact stranded_blocked _ (by decide) 0 _ g1 g2

end Panrpc.Ep

#print axioms Panrpc.Ep.cur_prog
#print axioms Panrpc.Ep.C05_no_internal_deadlock
#print axioms Panrpc.Ep.C05_only_blocking_ops_block
#print axioms Panrpc.Ep.C05_setters_never_block
#print axioms Panrpc.Ep.C05_rendezvous_enabled
#print axioms Panrpc.Ep.C05_no_wait_cycle
#print axioms Panrpc.Ep.C05_blocked_waiter_waits_for_outside
#print axioms Panrpc.Ep.C05_waiter_woken_only_by
#print axioms Panrpc.Ep.C05_publisher_woken_only_by
#print axioms Panrpc.Ep.C05_blocked_publisher_waits_for_its_waiter
#print axioms Panrpc.Ep.C05_blocked_stub_waits_for_waiter_or_link
#print axioms Panrpc.Ep.C05_blocked_link_is_healthy
#print axioms Panrpc.Ep.C05_internal_deadlock_on_pinned
