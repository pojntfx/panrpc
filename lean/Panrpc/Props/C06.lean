/-
  Props/C06.lean (resolution part) — "Whatever a peer sends — … unknown or empty function names,
  paths through any field of the exposed object (nil, non-struct, unexported or interface-typed
  ones included), wrong argument counts … — the receiving process does not crash".

  Model: P0 + P1.  `findLocalFunctionToCallRecursively` runs in a goroutine of the request loop; whether
  that goroutine recovers is the fact `reqResolverRecovers`, whether the lookup itself does the fact
  `lkRecoversPanics`.  Where neither holds (the pinned tree) a `reflect` panic during resolution is outcome
  `crash`.

  * `C06_crash_on_pinned_nil_iface`, `C06_crash_on_pinned_nil_embedded_ptr`,
    `C06_crash_on_pinned_nil_root`: the three crash classes of the pinned tree, as concrete
    requests on a shape that was compared with real `reflect`.
  * `C06_resolve_total_partial`: on well-formed shapes these three are the ONLY crashes.
  * `C06_call_panics_are_contained`: panics raised by `reflect.Value.Call` itself (read-only
    method value, unexported interface method) are recovered by `utils.Call` — they end the link.
  * `C06_resolve_total`: the property.  Its proof is the general lemma `resolveX_no_crash`
    (Lemmas/Lookup.lean) plus `by decide` facts about `Skeleton.current`; it does not type-check
    on a source that recovers neither inside the lookup nor in the resolver goroutine.
-/
import Panrpc.Lemmas.LookupCurrent
import Panrpc.Lemmas.LookupZoo

namespace Panrpc.Lk

/-! ### pinned-tree witnesses: three requests that kill the process -/

/-- a path ending in a method of a nil interface-typed field: `reflect: Method on nil interface value` -/
theorem C06_crash_on_pinned_nil_iface :
    resolve Skeleton.pinned Zoo.tt Zoo.root "NI.Val" 0 = .crash msgNilIface := by
  decide

/-- a path through a field promoted through a nil embedded pointer -/
theorem C06_crash_on_pinned_nil_embedded_ptr :
    resolve Skeleton.pinned Zoo.tt Zoo.rootNilEmb "Deep.Val" 0 =
      .crash msgNilEmb := by
  decide

/-- a registry created with a nil local object: any dot-free name (here even the closure entry
    point's own name) -/
theorem C06_crash_on_pinned_nil_root :
    resolve Skeleton.pinned Zoo.tt none "Anything" 0 =
      .crash msgZeroMeth ∧
    resolve Skeleton.pinned Zoo.tt none "CallClosure" 2 =
      .crash msgZeroMeth := by
  constructor <;> decide

/-- …also below the root, with recursive embedding (`&L1{&L2{&L1{nil,…},…},…}`: "L1" selects the
    inner L1, whose embedded `*L2` is nil) -/
example : resolve Skeleton.pinned Zoo.recTT Zoo.recRoot "L1.U.Val" 0 = .crash msgNilEmb := rfl
example : resolve Skeleton.pinned Zoo.recTT Zoo.recRootNil "U.Val" 0 = .crash msgNilEmb := rfl
example : resolve Skeleton.pinned Zoo.recTT Zoo.recRootNil "L1.W.Val" 0 = .crash msgNilEmb := rfl

/-- the neighbouring requests do not crash: naming the nil embedded pointer itself, a missing
    method on the nil interface, a dotted path on the nil root -/
example : resolve Skeleton.pinned Zoo.tt Zoo.rootNilEmb "pinner.Deep.Val" 0 = .rejected errNonStruct := rfl
example : resolve Skeleton.pinned Zoo.tt Zoo.root "NI.Nope" 0 = .rejected errNonFunc := rfl
example : resolve Skeleton.pinned Zoo.tt none "A.B" 0 = .rejected errNonStruct := rfl

/-! ### what holds on the current tree -/

/-- Panics of `reflect.Value.Call` on a resolved method value are recovered by `utils.Call`. -/
theorem C06_call_panics_are_contained (mv : MethodVal) (w : String) :
    callMethod Skeleton.current mv ≠ .crash w :=
  callMethod_ne_crash _ cur_call_recovers mv w

/-- On the current tree, for well-formed shapes, a crash of the resolution is one of exactly three
    `reflect` panics: `MethodByName` on the zero Value — precisely when the registry was created
    with a nil local object —, `Method` on a nil interface-typed field, or the indirection
    through a nil embedded pointer on the way to a promoted field.  Every other request —
    unknown, empty, over-long, partial, differently-cased names, paths through nil pointers,
    non-struct, unexported or interface-typed fields, wrong argument counts — does not crash.
    FULL STATEMENT: `C06_resolve_total` at the end of this file; missing: a `recover` around the
    lookup or in the resolver goroutine. -/
theorem C06_resolve_total_partial (tt : TypeTable) (root : Option Val) (hwf : WFShape tt root)
    (path : String) (nargs : Nat) (w : String)
    (h : resolve Skeleton.current tt root path nargs = .crash w) :
    (root = none ∧ w = msgZeroMeth) ∨ (root ≠ none ∧ (w = msgNilIface ∨ w = msgNilEmb)) :=
  resolveX_crash_classes _ cur_faithful cur_call_recovers _ tt root hwf path nargs w h

/-- General lemma instance for ANY skeleton that recovers (restated here for the record):
    if either the lookup converts panics into errors (and keeps its Kind and argument-count
    checks) or the resolver goroutine recovers, and `utils.Call` recovers, no request crashes. -/
theorem C06_resolve_total_of (sk : Skeleton) (hr : Recovering sk) (tt : TypeTable) (root : Option Val)
    (path : String) (nargs : Nat) (w : String) : resolve sk tt root path nargs ≠ .crash w :=
  resolveX_no_crash sk hr _ tt root path nargs w

/-- non-vacuity of the hypothesis: the pinned skeleton with a recovering resolver goroutine -/
example : Recovering { Skeleton.pinned with reqResolverRecovers := true } :=
  ⟨⟨rfl, rfl⟩, .inl rfl⟩
example : Recovering { Skeleton.pinned with lkRecoversPanics := true } :=
  ⟨⟨rfl, rfl⟩, .inr ⟨rfl, rfl, rfl, fun _ => rfl⟩⟩
/-- and the three crashing requests are then rejected -/
example : resolve { Skeleton.pinned with reqResolverRecovers := true } Zoo.tt Zoo.root "NI.Val" 0 =
    .rejected "recovered: reflect: Method on nil interface value" := rfl
example : resolve { Skeleton.pinned with lkRecoversPanics := true } Zoo.tt none "CallClosure" 2 = .closureEntry :=
  rfl

/-! ### C06 (resolution part): needs a `recover` in the source -/

/-- Whatever function name and argument count a peer sends, on whatever exposed object shape,
    resolving the request does not crash the process. -/
theorem C06_resolve_total (tt : TypeTable) (root : Option Val) (path : String) (nargs : Nat) (w : String) :
    resolve Skeleton.current tt root path nargs ≠ .crash w :=
  C06_resolve_total_of Skeleton.current ⟨cur_call_recovers, by decide⟩ tt root path nargs w

/-- A peer that stalls inside a closure invocation (it sends a valid `CallClosure` and never answers
    what the closure asks of it) holds no panrpc lock on our side: `CallClosure` releases the closure
    table's mutex before it runs the closure.  So the registry-wide closure table stays usable for
    every other link (checked against the regenerated skeleton). -/
theorem C06_stalled_peer_holds_no_lock :
    Skeleton.current.clInvokeOutsideLock = true ∧ Skeleton.current.clLockIsMutex = true := by decide

/-- The resolver's fallback `MethodByName` runs on the closure manager: its exported method set is exactly {CallClosure}
    (checked against the regenerated skeleton), so no peer-chosen name reaches any other library function. -/
theorem C06_closure_manager_exposes_only_its_entry_point :
    Skeleton.current.lkClosureManagerMethods = ["CallClosure"] := by decide

end Panrpc.Lk

#print axioms Panrpc.Lk.C06_crash_on_pinned_nil_iface
#print axioms Panrpc.Lk.C06_crash_on_pinned_nil_embedded_ptr
#print axioms Panrpc.Lk.C06_crash_on_pinned_nil_root
#print axioms Panrpc.Lk.C06_call_panics_are_contained
#print axioms Panrpc.Lk.C06_resolve_total_partial
#print axioms Panrpc.Lk.C06_resolve_total_of
#print axioms Panrpc.Lk.C06_resolve_total
#print axioms Panrpc.Lk.C06_stalled_peer_holds_no_lock
#print axioms Panrpc.Lk.C06_closure_manager_exposes_only_its_entry_point
