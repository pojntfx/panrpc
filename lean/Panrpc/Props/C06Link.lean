/-
  Props/C06Link.lean — the link-termination half of C06: "…the offending request is answered with an
  error or that one link is terminated with an error from its Link call" — and terminating a link
  must itself never crash the process, whatever calls of ours to that peer are in flight when the
  offending frame arrives.

  Model: M2 (Model/Endpoint.lean) with M1 embedded.  A peer-triggered termination is `setErrEnter`
  at an arbitrary moment (every fatal path of the request/response loops and of the resolver goroutine
  ends in `setErr`), interleaved arbitrarily with the stubs, waiters and publishers of in-flight calls.
  `crashed` is set by M1's close-of-closed-channel / send-on-closed-channel steps, e.g. `Free` after
  `Close` on an entry that `Close` left in the table.
-/
import Panrpc.Lemmas.EndpointCurrent

namespace Panrpc.Ep

/-- Terminating a link never crashes: no interleaving of `setErr` (entered any number of times, at any
    moment, with any error) with the in-flight calls' register / wait / free steps, the response
    publishers and per-call cancellations reaches a crashed state. -/
theorem C06_link_termination_never_crashes : ∀ s, Reach Skeleton.current s →
    s.crashed = false ∧ s.bc.crashed = false :=
  fun _ h => ⟨reach_no_crash _ cur_live.recovers cur_hyg cur_nochanclose h,
              (reach_nc _ cur_hyg cur_nochanclose h).nocrash⟩

/-- non-vacuity: a call is registered and waiting when the link is terminated; its waiter is woken by
    the close, frees its entry afterwards (the step that double-closes if `Close` keeps the table), and
    the call returns the link's error -/
example : (run Skeleton.current init
    [.callStart 0 5 2 0, .callReceive 0, .callSpawn 0, .callWrite 0, .waiterRecvCall 0,
     .setErrEnter 10 7, .setErrStore 10, .setErrClose 10,
     .waiterGetsDone 0, .waiterSend 0, .waiterFree 0, .callTakeRes 0 false]).map
    (fun s => decide (s.crashed = false ∧ s.bc.crashed = false ∧ s.bc.closed = true)) = some true :=
  rfl

/-- A malformed value in a function-typed argument position is only noticed when the handler INVOKES that
    callable (the closure id is decoded per invocation): the proxy's first statement defers a function that
    recovers every panic of the invocation — possibly on a goroutine the handler spawned, where nothing else
    would — and reports it to the link with an unconditional `setErr` (checked against the regenerated
    skeleton): the link ends with the decode error, the process survives, no bogus request is written. -/
theorem C06_bad_closure_id_is_contained :
    Skeleton.current.pxRecoverReports = true ∧ Skeleton.current.pxClosureIdPerInvocation = true := by decide

end Panrpc.Ep

#print axioms Panrpc.Ep.C06_link_termination_never_crashes
#print axioms Panrpc.Ep.C06_bad_closure_id_is_contained
