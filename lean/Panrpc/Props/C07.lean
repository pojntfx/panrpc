/-
  Props/C07.lean — "A request runs application code only if its function name is a dot-separated
  path of exported struct fields of the exposed object ending in an exported method in the method
  set of the value held there, and the number of arguments sent equals the method's parameter
  count minus the leading context; then exactly that method of exactly that (sub-)object runs
  […].  Every other name […] runs no application code; the only extra callable is the built-in
  closure entry point."

  Model: P0 (Model/Reflect.lean) + P1 (Model/Lookup.lean); specification: Spec/Exposed.lean.
  All theorems quantify over every type table, every value tree, every path string and every
  argument count; `joinPath segs` is `String.intercalate "." segs` (`joinPath_eq_intercalate`).
  Hypothesis `WFShape tt root` (decidable, Spec/Exposed.lean): the table has distinct field names
  per struct and distinct method names per method set; the value tree agrees with the table
  (field lists of the declared length and types, indices in range, dynamic values of interface
  slots not themselves interfaces, root not of interface kind).  Recursive types and recursive
  embedding are covered.  Soundness and completeness both use all of it.

  FINDING recorded here (F9).  On the pinned tree the STRICT statement `C07_sound`
  (every name in the path is an exported field) is FALSE: `FieldByName` finds an unexported
  EMBEDDED field by its name and `reflect` drops the resulting read-only flag at the next `Field`
  step, so "inner.Sub.Val" runs `Sub.Val` although `inner` is unexported
  (`C07_unexported_embedded_segment_runs_on_pinned`).  What holds there too is `C07_sound_partial`
  (exposure in the lax sense: names of unexported embedded fields are admitted as non-final
  segments; the method that runs is still an exported method of a value that the strict rules
  also reach — by the promoted path).  `C07_sound` and `C07_nothing_else_runs` are stated at
  full strength at the end of the file against the fact `lkRejectsUnexportedField`; they do not
  type-check on a source that does not reject such names.
-/
import Panrpc.Lemmas.LookupCurrent
import Panrpc.Lemmas.LookupZoo

namespace Panrpc.Lk

theorem wfShape_names {tt : TypeTable} {root : Option Val} (h : WFShape tt root) : NamesNodup tt :=
  h.parts.1

/-! ### C07 -/

/-- Soundness, as far as it holds on the current tree: whatever runs is exposed in the sense the
    fact `lkRejectsUnexportedField` selects (false → lax, true → strict), the argument count is
    the method's parameter count minus the context, and the method and object that run are the
    ones the path denotes.
    FULL STATEMENT: `C07_sound` at the end of this file (strict exposure); missing: the source
    does not reject path segments that name an unexported embedded field. -/
theorem C07_sound_partial (tt : TypeTable) (root : Option Val) (hwf : WFShape tt root)
    (path : String) (nargs inst : Nat) (m : String)
    (h : resolve Skeleton.current tt root path nargs = .runs inst m) :
    ∃ segs n, path = joinPath (segs ++ [m]) ∧
      ExposedN Skeleton.current.lkRejectsUnexportedField tt root segs m n (some inst) ∧ nargs + 1 = n :=
  resolveX_call_sound _ cur_faithful _ tt root hwf path nargs (some inst) m h

/-- …in particular it is exposed in the lax sense, whatever the fact's value. -/
theorem C07_sound_lax (tt : TypeTable) (root : Option Val) (hwf : WFShape tt root)
    (path : String) (nargs inst : Nat) (m : String)
    (h : resolve Skeleton.current tt root path nargs = .runs inst m) :
    ∃ segs n, path = joinPath (segs ++ [m]) ∧ ExposedN false tt root segs m n (some inst) ∧ nargs + 1 = n := by
  obtain ⟨segs, n, h1, h2, h3⟩ := C07_sound_partial tt root hwf path nargs inst m h
  exact ⟨segs, n, h1, h2.mono (by simp), h3⟩

/-- A method value bound to a nil pointer is Called only along an exposed path as well (the
    holder of the method is a nil pointer; there is no object). -/
theorem C07_nil_receiver_sound (tt : TypeTable) (root : Option Val) (hwf : WFShape tt root)
    (path : String) (nargs : Nat) (m : String)
    (h : resolve Skeleton.current tt root path nargs = .runsNil m) :
    ∃ segs n, path = joinPath (segs ++ [m]) ∧ ExposedN false tt root segs m n none ∧ nargs + 1 = n := by
  obtain ⟨segs, n, h1, h2, h3⟩ := resolveX_call_sound _ cur_faithful _ tt root hwf path nargs none m h
  exact ⟨segs, n, h1, h2.mono (by simp), h3⟩

/-- The only extra callable is the built-in closure entry point: it is reached only by the
    name "CallClosure", with two arguments, and only when the lookup on the object failed. -/
theorem C07_closure_entry_only_extra (tt : TypeTable) (root : Option Val) (path : String) (nargs : Nat)
    (h : resolve Skeleton.current tt root path nargs = .closureEntry) :
    path = "CallClosure" ∧ nargs = 2 ∧ ∃ e, lookup Skeleton.current tt root path = .err e := by
  obtain ⟨h1, h2, h3⟩ := resolveX_closureEntry _ cur_faithful _ tt root path nargs h
  have hm : Skeleton.current.lkClosureManagerMethods = ["CallClosure"] := by decide
  rw [hm] at h2
  exact ⟨by simpa using h2, h3, h1⟩

/-- Completeness: every strictly exposed path (dot-free, method name non-empty) with the matching
    argument count runs exactly that method of exactly that object. -/
theorem C07_complete (tt : TypeTable) (root : Option Val) (hwf : WFShape tt root)
    (segs : List String) (m : String) (inst nargs : Nat)
    (he : ExposedN true tt root segs m (nargs + 1) (some inst))
    (hd : ∀ s ∈ segs ++ [m], '.' ∉ s.toList) (hm : m ≠ "") :
    resolve Skeleton.current tt root (joinPath (segs ++ [m])) nargs = .runs inst m :=
  resolveX_complete _ cur_faithful _ tt root hwf segs m nargs (some inst) (he.mono fun _ => rfl) hd hm

/-- `Exposed` (C07's notion) with any parameter count n ≥ 1 is served with n - 1 arguments. -/
theorem C07_complete' (tt : TypeTable) (root : Option Val) (hwf : WFShape tt root)
    (segs : List String) (m : String) (inst : Nat) (he : Exposed tt root segs m inst)
    (hd : ∀ s ∈ segs ++ [m], '.' ∉ s.toList) (hm : m ≠ "") :
    ∃ n, ExposedN true tt root segs m n (some inst) ∧
      ∀ nargs, nargs + 1 = n → resolve Skeleton.current tt root (joinPath (segs ++ [m])) nargs = .runs inst m := by
  obtain ⟨n, hn⟩ := he
  exact ⟨n, hn, fun nargs h => C07_complete tt root hwf segs m inst nargs (h ▸ hn) hd hm⟩

/-- Nothing else runs, as far as it holds on the current tree: a name without a (lax) exposure
    witness of the right arity runs no application code — the request is rejected, reaches
    the closure entry point, or (pinned tree) crashes the resolver.
    FULL STATEMENT: `C07_nothing_else_runs` at the end of this file. -/
theorem C07_nothing_else_runs_partial (tt : TypeTable) (root : Option Val) (hwf : WFShape tt root)
    (path : String) (nargs : Nat)
    (hno : ¬ ∃ segs m recv, path = joinPath (segs ++ [m]) ∧ ExposedN false tt root segs m (nargs + 1) recv) :
    (∀ inst m, resolve Skeleton.current tt root path nargs ≠ .runs inst m) ∧
    (∀ m, resolve Skeleton.current tt root path nargs ≠ .runsNil m) := by
  have key : ∀ recv m, resolve Skeleton.current tt root path nargs ≠ .ofRecv recv m := fun recv m h => by
    obtain ⟨segs, n, h1, h2, rfl⟩ := resolveX_call_sound _ cur_faithful _ tt root hwf path nargs recv m h
    exact hno ⟨segs, m, recv, h1, h2.mono (by simp)⟩
  exact ⟨fun inst m => key (some inst) m, fun m => key none m⟩

/-! ### non-vacuity: a concrete shape (Lemmas/LookupZoo.lean), checked against real reflect -/

/-- the zoo is a well-formed shape -/
theorem zoo_wf : WFShape Zoo.tt Zoo.root := by decide

example : WFShape Zoo.tt Zoo.rootNilEmb := rfl
example : WFShape Zoo.tt none := rfl

section examples
open Zoo
local notation "res" => resolve Skeleton.current Zoo.tt Zoo.root

-- exposed paths: by value, by pointer, promoted through embedding (value and pointer), interface slot,
-- non-struct named type, method promoted to the root; instances of one type are told apart
example : res "Sub.Val" 0 = .runs 1 "Val" := rfl
example : res "PSub.Val" 0 = .runs 2 "Val" := rfl
example : res "PSub.Ptr" 0 = .runs 2 "Ptr" := rfl
example : res "Deep.Val" 0 = .runs 3 "Val" := rfl
example : res "A.X.Val" 0 = .runs 32 "Val" := rfl
example : res "B.X.Val" 0 = .runs 42 "Val" := rfl
example : res "A.E2.X.Val" 0 = .runs 32 "Val" := rfl
example : res "I.Val" 0 = .runs 20 "Val" := rfl
example : res "N.Get" 0 = .runs 9 "Get" := rfl
example : res "PN.Get" 0 = .runs 5 "Get" := rfl
example : res "InnerM" 0 = .runs 0 "InnerM" := rfl
-- Go's method-set rule: pointer-receiver method of a sub-object nested by value is not exposed
example : res "Sub.Ptr" 0 = .rejected errNonFunc := rfl
-- unexported method (of an interface: found by reflect, refused by Call; of a struct: not listed at all)
example : res "I.hidden" 0 = .rejected errCallUnexp := rfl
example : res "Sub.val" 0 = .rejected errNonFunc := rfl
-- unexported field (plain, and embedded as the last segment)
example : (res "priv.Val" 0).isRejected = true := rfl
example : (res "inner.InnerM" 0).isRejected = true := rfl
example : resolve Skeleton.pinned Zoo.tt Zoo.root "priv.Val" 0 = .rejected errCallRO := rfl
example : (res "_.Val" 0).isRejected = true := rfl
-- func-typed field
example : res "F" 0 = .rejected errNonFunc := rfl
-- partial paths
example : res "Sub" 0 = .rejected errNonFunc := rfl
example : res "A.X" 0 = .rejected errNonFunc := rfl
-- over-long paths
example : res "Sub.Val.Val" 0 = .rejected errInvalidField := rfl
example : res "I.Val.X" 0 = .rejected errNonStruct := rfl
example : res "PP.Val" 0 = .rejected errNonFunc := rfl
-- differently-cased names
example : res "sub.Val" 0 = .rejected errInvalidField := rfl
example : res "SUB.VAL" 0 = .rejected errInvalidField := rfl
example : res "Sub.VAL" 0 = .rejected errNonFunc := rfl
-- empty path and empty segments
example : res "" 0 = .rejected errEmptyPath := rfl
example : res "." 0 = .rejected errInvalidField := rfl
example : res "Sub..Val" 0 = .rejected errInvalidField := rfl
example : res "Sub." 0 = .rejected errNonFunc := rfl
example : res ".Sub.Val" 0 = .rejected errInvalidField := rfl
-- ambiguous promotion (X and E2 are reachable through both A and B at the same depth)
example : res "X.Val" 0 = .rejected errInvalidField := rfl
example : res "E2.X.Val" 0 = .rejected errInvalidField := rfl
-- wrong argument counts
example : res "Sub.Val" 1 = .rejected errArgCount := rfl
example : res "CallClosure" 1 = .rejected errArgCount := rfl
-- the closure entry point, and only under its exact name
example : res "CallClosure" 2 = .closureEntry := rfl
example : res "Sub.CallClosure" 2 = .rejected errNonFunc := rfl
example : res "callClosure" 2 = .rejected errNonFunc := rfl
-- nil sub-object: the method value of a nil *Sub is found and Called
example : res "NilP.Ptr" 0 = .runsNil "Ptr" := rfl
-- nil root pointer: nothing below it is reachable
example : resolve Skeleton.current Zoo.tt (some (.ptr 15 none)) "Sub.Val" 0 = .rejected errNonStruct := rfl

end examples

/-! recursive embedding (`type L1 struct{*L2; W Sub}; type L2 struct{*L1; U Sub}`): well-formed, the
    search terminates, depths are told apart -/
example : WFShape Zoo.recTT Zoo.recRoot := rfl
example : resolve Skeleton.current Zoo.recTT Zoo.recRoot "W.Val" 0 = .runs 1 "Val" := rfl
example : resolve Skeleton.current Zoo.recTT Zoo.recRoot "U.Val" 0 = .runs 2 "Val" := rfl
example : resolve Skeleton.current Zoo.recTT Zoo.recRoot "L2.U.Val" 0 = .runs 2 "Val" := rfl
example : resolve Skeleton.current Zoo.recTT Zoo.recRoot "L1.W.Val" 0 = .runs 3 "Val" := rfl
example : resolve Skeleton.current Zoo.recTT Zoo.recRoot "L2.L1.W.Val" 0 = .runs 3 "Val" := rfl
example : resolve Skeleton.current Zoo.recTT Zoo.recRoot "Q.Val" 0 = .rejected errInvalidField := rfl
example : resolve Skeleton.current Zoo.recTT Zoo.recRootNil "Q.Val" 0 = .rejected errInvalidField := rfl

/-- `Exposed` is inhabited on the zoo: "Sub.Val" (Sub promoted through the unexported embedded
    `inner`, which the selector does not name) is exposed, bound to instance 1. -/
example : Exposed Zoo.tt Zoo.root ["Sub"] "Val" 1 := by
  refine ⟨1, _, rfl, ?_⟩
  refine .field (T := 0) (inst := 0) (p := [0, 0]) (fd := Zoo.fd "Sub" true false 4) (v' := Zoo.sub 1)
    rfl ⟨by decide, 1, by decide, ?_⟩ rfl (.inl rfl) ?_
  · intro d' hd'
    have : d' = 0 := by omega
    subst this
    decide
  · exact .method ⟨rfl, rfl, Zoo.md "Val", by decide, rfl, rfl, rfl⟩

/-! ### the finding: a path through the NAME of an unexported embedded field runs application code -/

/-- On the pinned tree (and on the current one) the request "inner.Sub.Val" runs `Sub.Val` of
    instance 1 although `inner` is an unexported field: the path is not exposed in C07's sense. -/
theorem C07_unexported_embedded_segment_runs_on_pinned :
    resolve Skeleton.pinned Zoo.tt Zoo.root "inner.Sub.Val" 0 = .runs 1 "Val" ∧
    resolve Skeleton.pinned Zoo.tt Zoo.root "pinner.Deep.Val" 0 = .runs 3 "Val" ∧
    ¬ Exposed Zoo.tt Zoo.root ["inner", "Sub"] "Val" 1 := by
  refine ⟨by decide, by decide, ?_⟩
  rintro ⟨n, he⟩
  have h1 := (lookupX_func_iff Skeleton.pinned pinned_faithful true Zoo.tt Zoo.root zoo_wf "inner.Sub.Val" "Val" n
    (some 1)).mpr ⟨_, by decide, by decide, he⟩
  have h2 : lookupX Skeleton.pinned true Zoo.tt Zoo.root "inner.Sub.Val" = .err errUnexported := by decide
  rw [h2] at h1
  cases h1

/-- what a tree that rejects unexported names does with it -/
example : resolveX Skeleton.current true Zoo.tt Zoo.root "inner.Sub.Val" 0 = .rejected errUnexported := rfl

/-! ### the full-strength statements (need the source to reject unexported names: `lkRejectsUnexportedField`) -/

/-- C07, soundness at full strength. -/
theorem C07_sound (tt : TypeTable) (root : Option Val) (hwf : WFShape tt root)
    (path : String) (nargs inst : Nat) (m : String)
    (h : resolve Skeleton.current tt root path nargs = .runs inst m) :
    ∃ segs n, path = joinPath (segs ++ [m]) ∧ ExposedN true tt root segs m n (some inst) ∧ nargs + 1 = n := by
  have hchk : Skeleton.current.lkRejectsUnexportedField = true := by decide
  have := C07_sound_partial tt root hwf path nargs inst m h
  rwa [hchk] at this

/-- C07, "every other name runs no application code", at full strength. -/
theorem C07_nothing_else_runs (tt : TypeTable) (root : Option Val) (hwf : WFShape tt root)
    (path : String) (nargs : Nat)
    (hno : ¬ ∃ segs m inst, path = joinPath (segs ++ [m]) ∧ ExposedN true tt root segs m (nargs + 1) (some inst)) :
    ∀ inst m, resolve Skeleton.current tt root path nargs ≠ .runs inst m := by
  intro inst m h
  obtain ⟨segs, n, h1, h2, h3⟩ := C07_sound tt root hwf path nargs inst m h
  subst h3
  exact hno ⟨segs, m, inst, h1, h2⟩

/-- A resolved method is invoked by ONE `reflect` call on exactly the values decoded for this request, through a
    `utils.Call` that keeps nothing between invocations — no package-level state, results and arguments untouched
    (checked against the regenerated skeleton; `utils/call.go` is outside this property's anchors): what an earlier
    request did (e.g. a call of a variadic method) cannot change how a later valid request is dispatched. -/
theorem C07_dispatch_is_stateless :
    Skeleton.current.stateGlobals = [] ∧ Skeleton.current.ucResultsUntouched = true ∧ Skeleton.current.ucNoWaiting = true := by decide

/-- The resolver runs on the frame of ITS request: the request struct is declared inside the read loop's body, so a
    later frame — or the part of an undecodable frame that was filled in before the codec gave up — cannot change the
    function name or the arguments an earlier, still pending request is resolved with (checked against the regenerated
    skeleton). -/
theorem C07_each_request_is_resolved_from_its_own_frame :
    Skeleton.current.reqFrameFreshPerIteration = true ∧ Skeleton.current.lkResolvesPerRequest = true := by decide

end Panrpc.Lk

#print axioms Panrpc.Lk.C07_sound_partial
#print axioms Panrpc.Lk.C07_sound_lax
#print axioms Panrpc.Lk.C07_nil_receiver_sound
#print axioms Panrpc.Lk.C07_closure_entry_only_extra
#print axioms Panrpc.Lk.C07_complete
#print axioms Panrpc.Lk.C07_complete'
#print axioms Panrpc.Lk.C07_nothing_else_runs_partial
#print axioms Panrpc.Lk.zoo_wf
#print axioms Panrpc.Lk.C07_unexported_embedded_segment_runs_on_pinned
#print axioms Panrpc.Lk.C07_sound
#print axioms Panrpc.Lk.C07_nothing_else_runs
#print axioms Panrpc.Lk.C07_dispatch_is_stateless
#print axioms Panrpc.Lk.C07_each_request_is_resolved_from_its_own_frame
