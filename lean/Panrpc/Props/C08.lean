/-
  Props/C08.lean — C08, stream part: "the observable outcome of any workload is the same
  whether the link is message-based or stream-based".

  Model: the stream model (Model/Stream.lean).  `LinkStream` is `LinkMessage` behind four adapters; the
  theorems say that what the two read adapters return, for every sequence of decoder results
  and every interleaving, is what a FIFO message transport would deliver: the `request`
  members in order to the request loop, the `response` members in order to the response
  loop, then the decode error to both — and that the write adapters emit envelopes with
  exactly one member.  The property theorems are about `Skeleton.current` (the witness theorems say in their
  statements which other skeleton they are about).

  Not covered here: payload parametricity (`C08_payload_parametric`, of the wire and stream models: Props/C08Param.lean);
  the behaviour at teardown differs between the APIs on a tree whose hand-off is unguarded
  (`decoder_wedges_on_pinned` below; the positive statement is in Props/C08Live.lean).
-/
import Panrpc.Lemmas.Stream
import Panrpc.Generated.Current
import Panrpc.Pinned

namespace Panrpc.St

/-! ### the source facts these theorems rest on -/

theorem cur_stok : StOk Skeleton.current := by constructor <;> decide

theorem cur_readers_select_done : Skeleton.current.stReadersSelectDone = true := by decide

/-! ### safety -/

/-- Demultiplexing preserves order and invents nothing: in every reachable state the values
    the request-read adapter has returned are a prefix of the request members of the decoded
    envelopes, in order; likewise for responses; and the decoded envelopes are a prefix of
    what the stream carries. -/
theorem C08_stream_demux_order : ∀ inp s, Reach Skeleton.current inp s →
    s.gotReq <+: reqsOf s.consumed ∧ s.gotRes <+: ressOf s.consumed ∧ s.consumed <+: inp :=
  fun _ _ h => demux_prefix (reach_sinv _ cur_stok h)

/-- …and loses nothing: every decoded member has been returned, or is the one the decoder is
    handing over right now, or was dropped when the decoder aborted — which it only does once
    the link context is cancelled. -/
theorem C08_stream_no_loss : ∀ inp s, Reach Skeleton.current inp s →
    reqsOf s.consumed = s.gotReq ++ pendReq s.dec ++ s.lostReq ∧
    ressOf s.consumed = s.gotRes ++ pendRes s.dec ++ s.lostRes ∧
    (s.linkCtxDone = false → s.lostReq = [] ∧ s.lostRes = []) :=
  fun _ _ h =>
    let hi := reach_sinv _ cur_stok h
    ⟨hi.reqs, hi.ress, lost_only_on_ctx hi⟩

/-- the decoder goroutine never panics (it closes `decodeDone` at most once) -/
theorem C08_stream_no_panic : ∀ inp s, Reach Skeleton.current inp s → s.crashed = false :=
  fun _ _ h => (reach_sinv _ cur_stok h).nocrash

/-- what holds when a read adapter has returned the error `e` of a failed `decode` -/
structure EndOk (s : State) (e : Option StErr) (got members : List Payload) : Prop where
  /-- it is the (non-nil) error of the last `decode` call … -/
  is_err     : e = some (.decode (s.consumed.length - 1))
  /-- … which was the first failing one, -/
  last_fails : s.consumed.getLast? = some none
  first      : s.consumed.dropLast.all Option.isSome = true
  /-- and every member decoded before it has been returned before the error (never after:
      the decoder is done) -/
  complete   : got = members

/-- Both readers get exactly the decode error, after all earlier members — or, if the link
    context was cancelled and the decoder gave up a hand-off, the context's error (which is
    what LinkMessage's own `readRequestCtx` / `readResponseCtx` return for a cancelled context
    over a message transport, too). Never a nil error, never anything else. -/
theorem C08_stream_end : ∀ inp s, Reach Skeleton.current inp s →
    (∀ e, s.reqEnd = some e → s.reqRd = .exited ∧ e = s.decodeErr ∧ s.dec = .done ∧
       (EndOk s e s.gotReq (reqsOf s.consumed) ∨ (e = some .ctx ∧ s.linkCtxDone = true))) ∧
    (∀ e, s.resEnd = some e → s.resRd = .exited ∧ e = s.decodeErr ∧ s.dec = .done ∧
       (EndOk s e s.gotRes (ressOf s.consumed) ∨ (e = some .ctx ∧ s.linkCtxDone = true))) := by
  intro inp s h
  have hi := reach_sinv _ cur_stok h
  constructor
  · intro e he
    obtain ⟨hd, rfl, hx⟩ := hi.req_end e he
    obtain ⟨f1, f⟩ := end_facts hi hd
    exact ⟨hx, rfl, f1, f.imp (fun ⟨f2, f3, f4, f5, _⟩ => ⟨f2, f3, f4, f5⟩) id⟩
  · intro e he
    obtain ⟨hd, rfl, hx⟩ := hi.res_end e he
    obtain ⟨f1, f⟩ := end_facts hi hd
    exact ⟨hx, rfl, f1, f.imp (fun ⟨f2, f3, f4, _, f6⟩ => ⟨f2, f3, f4, f6⟩) id⟩

/-- Once `decodeDone` is closed a reader that keeps reading does get the error: its
    `case <-decodeDone` is enabled and returns `decodeErr`. -/
theorem C08_stream_end_delivered : ∀ inp s, Reach Skeleton.current inp s → s.decodeDone = true →
    (s.reqRd = .waiting → (step Skeleton.current s .readDoneReq).map (·.reqEnd) = some (some s.decodeErr)) ∧
    (s.resRd = .waiting → (step Skeleton.current s .readDoneRes).map (·.resEnd) = some (some s.decodeErr)) := by
  intro inp s h hd
  have hc := (reach_sinv _ cur_stok h).nocrash
  constructor <;> intro hw <;> simp [step, hc, hw, hd, cur_readers_select_done]

/-- The same as one statement about complete runs: over a stream that carries the envelopes
    `es` and then fails, with the link context not cancelled, a reader that has got its error
    has got exactly the FIFO subsequence of its members before it, and the error is the one of
    decode call number `es.length`.  Hence every such run of the stream-linked system is a run
    of the message-linked system over a FIFO transport that delivers `es.filterMap (·.req)` to
    `readRequest`, `es.filterMap (·.res)` to `readResponse`, and then fails both. -/
theorem C08_stream_refines_message : ∀ (es : List Envelope) s,
    Reach Skeleton.current (es.map some ++ [none]) s → s.linkCtxDone = false →
    (∀ e, s.reqEnd = some e → s.gotReq = es.filterMap (·.req) ∧ e = some (.decode es.length)) ∧
    (∀ e, s.resEnd = some e → s.gotRes = es.filterMap (·.res) ∧ e = some (.decode es.length)) := by
  intro es s h hctx
  have hi := reach_sinv _ cur_stok h
  -- once `decodeDone` is closed the whole input has been consumed, and `end_facts` speaks of `es`
  have key : s.decodeDone = true → s.decodeErr = some (.decode es.length) ∧
      s.gotReq = es.filterMap (·.req) ∧ s.gotRes = es.filterMap (·.res) := by
    intro hd
    obtain ⟨-, ⟨f2, hlast, -, f5, f6⟩ | f⟩ := end_facts hi hd
    · -- a prefix of `es.map some ++ [none]` that contains a `none` is the whole
      have hk : s.consumed = es.map some ++ [none] :=
        (List.prefix_concat_iff.mp ⟨s.inp, hi.split⟩).resolve_right fun h =>
          absurd (h.subset (List.mem_of_getLast? hlast)) (by simp)
      rw [hk] at f2 f5 f6
      exact ⟨by simpa using f2, by simpa [reqsOf, List.filterMap_map, Function.comp_def] using f5,
        by simpa [ressOf, List.filterMap_map, Function.comp_def] using f6⟩
    · rw [hctx] at f; cases f.2
  exact ⟨fun e he => have ⟨hd, hee, _⟩ := hi.req_end e he; ⟨(key hd).2.1, hee ▸ (key hd).1⟩,
    fun e he => have ⟨hd, hee, _⟩ := hi.res_end e he; ⟨(key hd).2.2, hee ▸ (key hd).1⟩⟩

/-- The write adapters emit an envelope with exactly one member, the payload they were given:
    read back through the decoder, a written request goes to the request loop only and a
    written response to the response loop only. -/
theorem C08_envelope_written_has_one_member : ∀ (b : Payload) (o : Option Payload),
    writeReq Skeleton.current b o = { req := some b, res := none } ∧
    writeRes Skeleton.current b o = { req := none, res := some b } ∧
    reqsOf [some (writeReq Skeleton.current b o)] = [b] ∧ ressOf [some (writeReq Skeleton.current b o)] = [] ∧
    reqsOf [some (writeRes Skeleton.current b o)] = [] ∧ ressOf [some (writeRes Skeleton.current b o)] = [b] := by
  intro b o
  have h1 : Skeleton.current.stEncodeRequestOnly = true := by decide
  have h2 : Skeleton.current.stEncodeResponseOnly = true := by decide
  simp [writeReq, writeRes, h1, h2, reqsOf, ressOf]

/-! ### liveness-shaped statements (cited by C14 / C15) -/

/-- As long as both reader loops keep reading and the stream ends in a decode error, the
    decoder goroutine can run to its end (this half needs no guard on the hand-off). -/
theorem decoder_finishes_if_readers_stay : ∀ inp s, Reach Skeleton.current inp s → none ∈ s.inp →
    s.reqRd = .waiting → s.resRd = .waiting → Leads Skeleton.current s (fun s' => s'.dec = .done) :=
  fun _ _ h hn h1 h2 =>
    decoder_can_finish_of cur_stok.errFirst cur_stok.exits (reach_sinv _ cur_stok h).nocrash hn (.inr ⟨h1, h2⟩)

/-- Pinned tree (F5b): the request loop leaves, a request arrives: the decoder goroutine is
    stuck in `requests <- *msg.Request` forever — whatever anybody does afterwards (cancelling
    the link context included) the decoder stays where it is, and none of its own actions is
    ever enabled again. -/
theorem decoder_wedges_on_pinned :
    ∃ s0, run Skeleton.pinned (init [some { req := some 1, res := none }, none]) [.exitReq, .decRead] = some s0 ∧
      s0.dec = .handReq 1 none ∧
      (∀ acts s', run Skeleton.pinned s0 acts = some s' → s'.dec = .handReq 1 none ∧ s'.dec ≠ .done) ∧
      (∀ acts s', run Skeleton.pinned s0 acts = some s' → ∀ a, a.ofDecoder = true → step Skeleton.pinned s' a = none) := by
  have hg : Skeleton.pinned.stHandoffGuarded = false := by decide
  refine ⟨_, rfl, by decide, ?_, ?_⟩ <;> intro acts s' hr <;>
    have := wedge_run_req _ hg acts (by decide) (by decide : _ = Dec.handReq 1 none) hr
  · exact ⟨this.2, by rw [this.2]; decide⟩
  · exact fun a ha => wedge_no_decoder_step _ hg a this.1 this.2 ha

/-! ### non-vacuity -/

/-- a complete exchange: two envelopes, then the stream fails; both readers end with the error
    of decode call 2 after having received `[1]` resp. `[2, 3]` -/
example : (run Skeleton.current
      (init [some { req := some 1, res := some 2 }, some { req := none, res := some 3 }, none])
      [.decRead, .handReq, .handRes, .decRead, .handRes, .decRead, .decFinish, .readDoneReq, .readDoneRes]).map
    (fun s => decide (s.gotReq = [1] ∧ s.gotRes = [2, 3] ∧ s.reqEnd = some (some (.decode 2)) ∧ s.resEnd = some (some (.decode 2)) ∧
                      s.dec = .done)) = some true := rfl

/-- the hypotheses of `C08_stream_end_delivered` and `decoder_finishes_if_readers_stay` are met -/
example : (run Skeleton.current (init [some { req := some 1, res := none }, none])
      [.decRead, .handReq, .decRead, .decFinish]).map
    (fun s => decide (s.decodeDone = true ∧ s.reqRd = .waiting ∧ s.resRd = .waiting)) = some true := rfl

example : (run Skeleton.current (init [some { req := some 1, res := some 2 }, none]) [.decRead]).map
    (fun s => decide (none ∈ s.inp ∧ s.reqRd = .waiting ∧ s.resRd = .waiting ∧ s.dec = .handReq 1 (some 2))) = some true :=
  rfl

/-- a reader cannot get the error early: `readDoneReq` is rejected while `decodeDone` is open -/
example : run Skeleton.current (init [some { req := some 1, res := none }, none]) [.decRead, .readDoneReq] = none :=
  rfl

/-- The hand-off between the decoder and the two read loops is a rendezvous (unbuffered channels):
    the model's joint hand-off step is what the source does, so a frame is consumed by its loop
    before the decoder can reach a later decode error (checked against the regenerated skeleton). -/
theorem C08_handoff_is_rendezvous : Skeleton.current.stHandoffChanCap = 0 := by decide

/-- The source declares `var msg Message[T]` INSIDE the decode loop (checked against the regenerated
    skeleton), so the model's `decRead` starts every frame from an empty envelope (`decoded` = the
    envelope just decoded).  This is the hypothesis `StOk.fresh` of every FIFO theorem above; what
    happens without it is `C08_hoisted_envelope_redelivers` below: a frame that omits a member (any
    encoder that drops empty fields) redelivers the previous frame's — behaviour that depends on the
    peer's encoder, which the message API cannot show. -/
theorem C08_envelope_fresh_per_frame : Skeleton.current.stMsgFreshPerIteration = true := by decide

/-- the source that differs from the current one only in declaring the envelope OUTSIDE the decode loop -/
abbrev hoisted : Skeleton := { Skeleton.current with stMsgFreshPerIteration := false }

/-- **The fact is needed.**  With the envelope hoisted out of the loop, the peer sends a request
    frame `{request: 1}` and then a response frame `{response: 7}`: decoding the second frame leaves
    the `Request` member of the first in place, and request 1 is handed to the request loop a SECOND
    time (the run below is enabled and ends with `gotReq = [1, 1]`) although the peer sent it once
    (`reqsOf consumed = [1]`) — the FIFO statement `C08_stream_no_loss` fails on that tree. -/
theorem C08_hoisted_envelope_redelivers :
    (run hoisted (init [some { req := some 1, res := none }, some { req := none, res := some 7 }])
      [.decRead, .handReq, .decRead, .handReq, .handRes]).map
    (fun s => (s.gotReq, s.gotRes, reqsOf s.consumed, ressOf s.consumed, s.crashed)) =
      some ([1, 1], [7], [1], [7], false) := by
  decide

/-- … in particular the conclusion of `C08_stream_demux_order` is false in a reachable state of that tree -/
theorem C08_hoisted_envelope_breaks_fifo :
    ∃ inp s, Reach hoisted inp s ∧ ¬ (s.gotReq <+: reqsOf s.consumed) := by
  refine ⟨[some { req := some 1, res := none }, some { req := none, res := some 7 }], _,
    reach_of_run hoisted [.decRead, .handReq, .decRead, .handReq, .handRes] Reach.init rfl, ?_⟩
  decide

/-- On the current source the same two frames give the request loop request 1 ONCE: after the second
    `decode` the decoder holds only the response (`dec = handRes 7`), the second hand-off to the request
    loop is not a step, and the run that hands over what is there ends with `gotReq = [1]`, `gotRes = [7]`. -/
theorem C08_fresh_envelope_delivers_once :
    (run Skeleton.current (init [some { req := some 1, res := none }, some { req := none, res := some 7 }])
      [.decRead, .handReq, .decRead]).map (·.dec) = some (.handRes 7) ∧
    run Skeleton.current (init [some { req := some 1, res := none }, some { req := none, res := some 7 }])
      [.decRead, .handReq, .decRead, .handReq, .handRes] = none ∧
    (run Skeleton.current (init [some { req := some 1, res := none }, some { req := none, res := some 7 }])
      [.decRead, .handReq, .decRead, .handRes]).map
    (fun s => (s.gotReq, s.gotRes, reqsOf s.consumed, ressOf s.consumed, s.crashed)) =
      some ([1], [7], [1], [7], false) := by
  decide

/-- When a link dies the calls in flight get `utils.ErrClosed` — not the cause handed to `Close` (the user-supplied read
    / decode function's error, whose text differs per API and serializer): the receive function's closed-signal case
    returns ErrClosed and nothing else (checked against the regenerated skeleton). -/
theorem C08_in_flight_calls_fail_uniformly :
    Skeleton.current.bcRecvSelectsDone = true ∧ Skeleton.current.bcReceiveErrorsOnlyClosed = true := by decide

/-- What a closure receives depends on its declared parameter types only, not on the dynamic type the serializer's
    generic decoder produced (`float64` under JSON, `uint64` / `int64` under CBOR): the wrapper's conversion loop is
    convert–check–store and nothing else, no type assertion on the decoded argument (checked against the regenerated
    skeleton; `rpc/manager.go` is outside this property's anchors). -/
theorem C08_closure_arguments_converted_by_declared_type_only :
    Skeleton.current.clConvertsEveryArg = true ∧ Skeleton.current.cvUsesConvertibleTo = true := by decide

end Panrpc.St

#print axioms Panrpc.St.C08_envelope_fresh_per_frame
#print axioms Panrpc.St.C08_hoisted_envelope_redelivers
#print axioms Panrpc.St.C08_hoisted_envelope_breaks_fifo
#print axioms Panrpc.St.C08_fresh_envelope_delivers_once

#print axioms Panrpc.St.C08_handoff_is_rendezvous
#print axioms Panrpc.St.C08_stream_demux_order
#print axioms Panrpc.St.C08_stream_no_loss
#print axioms Panrpc.St.C08_stream_no_panic
#print axioms Panrpc.St.C08_stream_end
#print axioms Panrpc.St.C08_stream_end_delivered
#print axioms Panrpc.St.C08_stream_refines_message
#print axioms Panrpc.St.C08_envelope_written_has_one_member
#print axioms Panrpc.St.decoder_finishes_if_readers_stay
#print axioms Panrpc.St.decoder_wedges_on_pinned
#print axioms Panrpc.St.C08_in_flight_calls_fail_uniformly
#print axioms Panrpc.St.C08_closure_arguments_converted_by_declared_type_only
