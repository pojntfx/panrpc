/-
  Props/C08Frames.lean — the decode target of a read loop and the handlers it spawns (C06, C08, C09).

  The request loop of `LinkMessage` decodes a frame into a `utils.Request[T]` and spawns a goroutine that
  reads `req.Call` / `req.Args` LATER (when it resolves the function, decodes the arguments, builds the
  response).  The loop does not wait for that goroutine: it reads and decodes the next frame at once.
  `fresh` says whether every iteration declares its own struct (`reqFrameFreshPerIteration`, regenerated
  from the source) — otherwise the spawned goroutines alias ONE buffer which the loop overwrites (a struct
  copy does not help: the argument slice's backing array is still shared).
-/
import Panrpc.Generated.Current

namespace Panrpc.Frames

/-- A frame: call id and argument payload. -/
abbrev Frame := Nat × Nat

structure St where
  inbox : List Frame                 -- frames the peer has sent and the loop has not read yet
  buf   : Nat                        -- argument bytes currently in the shared decode target
  pend  : List (Nat × Option Nat)    -- spawned handlers: call id, and their own arguments (`none`: they alias `buf`)
  out   : List Frame                 -- (call id, arguments the handler actually ran with)

inductive Act where
  | read            -- the loop reads and decodes the next frame and spawns its handler
  | run (i : Nat)   -- the i-th pending handler reads its arguments and runs

def step (fresh : Bool) (s : St) : Act → Option St
  | .read => match s.inbox with
    | [] => none
    | (c, a) :: rest =>
      some { s with inbox := rest, buf := a, pend := s.pend ++ [(c, if fresh then some a else none)] }
  | .run i => match s.pend[i]? with
    | none => none
    | some (c, own) => some { s with pend := s.pend.eraseIdx i, out := s.out ++ [(c, own.getD s.buf)] }

def init (frames : List Frame) : St := { inbox := frames, buf := 0, pend := [], out := [] }

inductive Reach (fresh : Bool) (frames : List Frame) : St → Prop where
  | init : Reach fresh frames (init frames)
  | step {s s' a} : Reach fresh frames s → step fresh s a = some s' → Reach fresh frames s'

/-- Invariant with per-iteration structs: everything in flight is one of the peer's frames. -/
def Inv (frames : List Frame) (s : St) : Prop :=
  (∀ f ∈ s.inbox, f ∈ frames) ∧ (∀ p ∈ s.pend, ∃ a, p.2 = some a ∧ (p.1, a) ∈ frames) ∧ (∀ f ∈ s.out, f ∈ frames)

theorem inv_reach (frames : List Frame) : ∀ s, Reach true frames s → Inv frames s := by
  intro s h
  induction h with
  | init => simp [Inv, init]
  | @step s s' a _ hs ih =>
    obtain ⟨hi, hp, ho⟩ := ih
    cases a <;> simp only [step] at hs <;> split at hs <;> cases hs
    · -- the frame read leaves the inbox for the pending list, with its own arguments
      simp_all [Inv, or_imp, forall_and]
    · -- the handler that runs has its own arguments, those of one of the peer's frames
      rename_i heq
      obtain ⟨a, ha, hf⟩ := hp _ (List.mem_of_getElem? heq)
      exact ⟨hi, fun p hp' => hp p (List.mem_of_mem_eraseIdx hp'), by simp_all [or_imp]⟩

/-- C08/C09 — every request runs with the arguments of ITS OWN frame, whatever the peer pipelines and however
    the handlers are scheduled against the read loop: with the regenerated skeleton's per-iteration struct. -/
theorem C08_handlers_run_with_their_own_frame (frames : List Frame) (s : St)
    (h : Reach Skeleton.current.reqFrameFreshPerIteration frames s) : ∀ f ∈ s.out, f ∈ frames :=
  (inv_reach frames s h).2.2

/-- Witness: with one decode target reused across iterations two pipelined well-formed requests suffice — the
    first handler runs with the second request's arguments (in the Go code: `json.Unmarshal` reading bytes that
    change underfoot, i.e. a crash of the process, or a silently wrong result). -/
theorem C06_shared_decode_target_crosses_requests :
    ∃ s, Reach false [(1, 10), (2, 20)] s ∧ (1, 20) ∈ s.out ∧ (1, 20) ∉ [(1, 10), (2, 20)] := by
  refine ⟨{ inbox := [], buf := 20, pend := [(2, none)], out := [(1, 20)] }, ?_, by simp, by decide⟩
  have h0 := Reach.init (fresh := false) (frames := [(1, 10), (2, 20)])
  have h1 := Reach.step (a := .read) h0 (s' := { inbox := [(2, 20)], buf := 10, pend := [(1, none)], out := [] }) rfl
  have h2 := Reach.step (a := .read) h1 (s' := { inbox := [], buf := 20, pend := [(1, none), (2, none)], out := [] }) rfl
  exact Reach.step (a := .run 0) h2 rfl

/-- Non-vacuity: a run in which both pipelined requests are handled exists on the current skeleton. -/
example : ∃ s, Reach Skeleton.current.reqFrameFreshPerIteration [(1, 10), (2, 20)] s ∧ s.out = [(1, 10), (2, 20)] := by
  have hc : Skeleton.current.reqFrameFreshPerIteration = true := rfl
  rw [hc]
  refine ⟨{ inbox := [], buf := 20, pend := [], out := [(1, 10), (2, 20)] }, ?_, rfl⟩
  have h0 := Reach.init (fresh := true) (frames := [(1, 10), (2, 20)])
  have h1 := Reach.step (a := .read) h0 (s' := { inbox := [(2, 20)], buf := 10, pend := [(1, some 10)], out := [] }) rfl
  have h2 := Reach.step (a := .read) h1 (s' := { inbox := [], buf := 20, pend := [(1, some 10), (2, some 20)], out := [] }) rfl
  have h3 := Reach.step (a := .run 0) h2 (s' := { inbox := [], buf := 20, pend := [(2, some 20)], out := [(1, 10)] }) rfl
  exact Reach.step (a := .run 0) h3 rfl

end Panrpc.Frames

#print axioms Panrpc.Frames.C08_handlers_run_with_their_own_frame
#print axioms Panrpc.Frames.C06_shared_decode_target_crosses_requests
