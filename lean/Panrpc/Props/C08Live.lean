/-
  Props/C08Live.lean — the teardown half of the stream link (cited by C05 / C14 / C15).

  The first theorem below is `by decide` on the regenerated fact `stHandoffGuarded`: on a source whose
  LinkStream does not guard its two hand-off sends with the link context
  (`select { case requests <- …: case <-ctx.Done(): return }`) this module does not type-check.
  Everything that holds without the guard is in Props/C08.lean (`decoder_finishes_if_readers_stay`,
  and the witness `decoder_wedges_on_pinned`).
-/
import Panrpc.Props.C08

namespace Panrpc.St

/-- the hand-off sends of the decoder goroutine also select on the link context -/
theorem cur_handoff_guarded : Skeleton.current.stHandoffGuarded = true := by decide

/-- From every reachable state in which the link context is cancelled, or in which both
    reader loops are still reading, the decoder goroutine can run to its end, provided the
    stream eventually fails (`decode` returns an error: the transport was closed).  In
    particular a reader loop that has left can no longer wedge the decoder.
    (While `decode` itself blocks nothing can end the goroutine: closing the transport is the
    caller's job, as for the message API.) -/
theorem decoder_can_finish : ∀ inp s, Reach Skeleton.current inp s → none ∈ s.inp →
    (s.linkCtxDone = true ∨ (s.reqRd = .waiting ∧ s.resRd = .waiting)) →
    Leads Skeleton.current s (fun s' => s'.dec = .done) :=
  fun _ _ h hn hc => decoder_can_finish_of cur_stok.errFirst cur_stok.exits (reach_sinv _ cur_stok h).nocrash hn
    (hc.imp (fun h => ⟨cur_handoff_guarded, h⟩) id)

/-- The source's abort is the signalling one: every context-done exit records `decodeErr` and closes
    `decodeDone` before returning (checked against the regenerated skeleton) — otherwise a reader
    parked in its adapter would never be woken.  The model's `decAbort c` is enabled only for
    `c =` this fact. -/
theorem C15_decoder_abort_signals_readers : Skeleton.current.stAbortClosesDone = true := by decide

/-- a blocked hand-off is left in one step once the link context is cancelled: the signalling abort
    (`decodeErr = ctx.Err(); close(decodeDone); return`) is enabled, the decoder is done after it,
    `decodeDone` is closed without a panic and `decodeErr` is the context error -/
theorem decoder_abort_enabled : ∀ inp s, Reach Skeleton.current inp s → s.linkCtxDone = true →
    (∀ p n, s.dec = .handReq p n →
      (step Skeleton.current s (.decAbort true)).map (·.dec) = some .done ∧
      (step Skeleton.current s (.decAbort true)).map (fun s' => (s'.decodeDone, s'.decodeErr, s'.crashed)) =
        some (true, some .ctx, false)) ∧
    (∀ q, s.dec = .handRes q →
      (step Skeleton.current s (.decAbort true)).map (·.dec) = some .done ∧
      (step Skeleton.current s (.decAbort true)).map (fun s' => (s'.decodeDone, s'.decodeErr, s'.crashed)) =
        some (true, some .ctx, false)) := by
  intro inp s h hx
  have hi := reach_sinv _ cur_stok h
  refine ⟨fun p n hd => ?_, fun q hd => ?_⟩ <;>
    have hdd : s.decodeDone = false := (hi.live (by rw [hd]; rfl)).2 <;>
    simp [step, hi.nocrash, cur_handoff_guarded, hx, hd, C15_decoder_abort_signals_readers, abortWith, closeDone, hdd,
      leave_once cur_stok.closedOnce]

/-- the silent abort (leave the hand-off without telling the readers) is not a step of the current
    source, in any state -/
theorem C15_no_silent_abort : ∀ s, step Skeleton.current s (.decAbort false) = none := by
  simp [step, C15_decoder_abort_signals_readers]

/-- non-vacuity: the request loop has left, the context is cancelled, a request arrives (the
    very state that wedges the pinned tree): the decoder leaves, the response loop is told -/
example : (run Skeleton.current (init [some { req := some 1, res := none }, none])
      [.exitReq, .ctxCancel, .decRead, .decAbort true, .readDoneRes]).map
    (fun s => decide (s.dec = .done ∧ s.lostReq = [1] ∧ s.resEnd = some (some .ctx))) = some true :=
  rfl

/-- … and the same schedule with the silent abort is rejected at the abort -/
example : run Skeleton.current (init [some { req := some 1, res := none }, none])
      [.exitReq, .ctxCancel, .decRead, .decAbort false] = none :=
  rfl

/-- **Whenever the decoder goroutine is done, the readers have been told**: `decodeDone` is closed
    and `decodeErr` holds the reason (the decode error or `ctx.Err()`), on every way out — the
    error path and the abort of either hand-off.  (Conversely `decodeDone` closed implies the
    decoder is done: `SInv.closed_dec`, used in Props/C08.lean.) -/
theorem C15_decoder_done_means_signalled : ∀ inp s, Reach Skeleton.current inp s → s.dec = .done →
    s.decodeDone = true ∧ s.decodeErr ≠ none :=
  fun _ _ => done_signalled _ cur_stok C15_decoder_abort_signals_readers

/-- **Once the decoder has left, a reader parked in its adapter is never stuck**: its
    `case <-decodeDone:` arm is enabled (both read adapters select on `decodeDone`). -/
theorem C15_readers_can_always_leave : ∀ inp s, Reach Skeleton.current inp s → s.dec = .done →
    (s.reqRd = .waiting → (step Skeleton.current s .readDoneReq).isSome = true) ∧
    (s.resRd = .waiting → (step Skeleton.current s .readDoneRes).isSome = true) :=
  fun _ _ => readers_can_leave _ cur_stok C15_decoder_abort_signals_readers cur_readers_select_done

/-- non-vacuity of the two theorems: a run that reaches `dec = .done` through `decAbort true` with
    the response reader still parked in its adapter; `decodeDone` is closed, `decodeErr` is set,
    and the reader's way out is enabled -/
example : (run Skeleton.current (init [some { req := some 1, res := some 2 }])
      [.ctxCancel, .decRead, .decAbort true]).map
    (fun s => decide (s.dec = .done ∧ s.resRd = .waiting ∧ s.reqRd = .waiting ∧
                      s.decodeDone = true ∧ s.decodeErr = some .ctx ∧
                      (step Skeleton.current s .readDoneReq).isSome = true ∧
                      (step Skeleton.current s .readDoneRes).isSome = true)) = some true :=
  rfl

/-- … and one through the error path (`decRead` of a decode error, `decFinish`) -/
example : (run Skeleton.current (init [none]) [.decRead, .decFinish]).map
    (fun s => decide (s.dec = .done ∧ s.reqRd = .waiting ∧ s.decodeDone = true ∧
                      s.decodeErr = some (.decode 0) ∧
                      (step Skeleton.current s .readDoneReq).isSome = true)) = some true :=
  rfl

/-- the fact is needed: a source that differs from the current one only in leaving the hand-off
    silently (`case <-ctx.Done(): return`) reaches a state in which the decoder is done, `decodeDone`
    is open, and the reader parked in its adapter cannot take its `case <-decodeDone:` arm -/
theorem C15_silent_abort_would_strand_reader :
    (run { Skeleton.current with stAbortClosesDone := false } (init [some { req := some 1, res := some 2 }])
      [.ctxCancel, .decRead, .decAbort false]).map
    (fun s => decide (s.dec = .done ∧ s.decodeDone = false ∧ s.decodeErr = none ∧ s.resRd = .waiting ∧
        (step { Skeleton.current with stAbortClosesDone := false } s .readDoneRes).isNone = true ∧
        (step { Skeleton.current with stAbortClosesDone := false } s .handRes).isNone = true)) = some true := by
  decide

/-  On the pinned tree the failure is a different one: `stHandoffGuarded = false` there, so no abort
    exists at all (`stAbortClosesDone = false` is vacuous), `dec = .done` is entered only by the
    error path and is always signalled.  What goes wrong there is that the decoder never gets done —
    it stays blocked in the bare hand-off: `decoder_wedges_on_pinned` in Props/C08.lean.  The two
    statements below record that the invariant itself is NOT what fails on the pinned tree. -/

/-- on the pinned tree no abort of either form is a step, in any state -/
theorem C15_no_abort_on_pinned : ∀ s c, step Skeleton.pinned s (.decAbort c) = none := by
  have hg : Skeleton.pinned.stHandoffGuarded = false := by decide
  simp [step, hg]

/-- … so there, too, a decoder that is done has signalled (its only way out is the error path) -/
theorem C15_decoder_done_means_signalled_on_pinned : ∀ inp s, Reach Skeleton.pinned inp s → s.dec = .done →
    s.decodeDone = true ∧ s.decodeErr ≠ none :=
  fun _ _ => reach_done_signalled _ (by constructor <;> decide) fun hg => absurd hg (by decide)

/-- `decodeDone` is closed exactly once on every way out of the decoder goroutine, and by nobody else
    (checked against the regenerated skeleton): the model's `leave` adds nothing to the one close in
    front of each exit.  This is the hypothesis `StOk.closedOnce` of `C08_stream_no_panic` (through
    `SInv.nocrash`) and of every theorem here that rests on `reach_sinv`; what happens without it is
    `C05_surplus_close_crashes` below. -/
theorem C05_decoder_done_closed_once : Skeleton.current.stDoneClosedOncePerExit = true := by decide

/-- the source that differs from the current one only in closing `decodeDone` once more when the decoder
    goroutine returns (e.g. a `defer close(decodeDone)` added while the explicit closes remain) -/
abbrev surplusClose : Skeleton := { Skeleton.current with stDoneClosedOncePerExit := false }

/-- **The fact is needed.**  With a surplus close, each way out of the decoder goroutine ends in
    `panic: close of closed channel` (`crashed = true`) in a goroutine that has no `recover`:
    the error path (`decode` fails, `decodeErr = err; close(decodeDone); break`), and the abort of a
    hand-off — a frame arrives after the link context was cancelled
    (`decodeErr = ctx.Err(); close(decodeDone); return`), from either hand-off select. -/
theorem C05_surplus_close_crashes :
    (run surplusClose (init [none]) [.decRead, .decFinish]).map
      (fun s => (s.dec, s.decodeDone, s.crashed)) = some (.done, true, true) ∧
    (run surplusClose (init [some { req := some 1, res := none }]) [.ctxCancel, .decRead, .decAbort true]).map
      (fun s => (s.dec, s.decodeDone, s.crashed)) = some (.done, true, true) ∧
    (run surplusClose (init [some { req := none, res := some 2 }]) [.ctxCancel, .decRead, .decAbort true]).map
      (fun s => (s.dec, s.decodeDone, s.crashed)) = some (.done, true, true) := by
  decide

/-- … so `C08_stream_no_panic` is false on that tree -/
theorem C05_surplus_close_reaches_panic : ∃ inp s, Reach surplusClose inp s ∧ s.crashed = true :=
  ⟨[none], _, reach_of_run surplusClose [.decRead, .decFinish] Reach.init rfl, by decide⟩

/-- On the current source the same three runs close `decodeDone` once and do not panic. -/
theorem C05_single_close_no_crash :
    (run Skeleton.current (init [none]) [.decRead, .decFinish]).map
      (fun s => (s.dec, s.decodeDone, s.crashed)) = some (.done, true, false) ∧
    (run Skeleton.current (init [some { req := some 1, res := none }]) [.ctxCancel, .decRead, .decAbort true]).map
      (fun s => (s.dec, s.decodeDone, s.crashed)) = some (.done, true, false) ∧
    (run Skeleton.current (init [some { req := none, res := some 2 }]) [.ctxCancel, .decRead, .decAbort true]).map
      (fun s => (s.dec, s.decodeDone, s.crashed)) = some (.done, true, false) := by
  decide

end Panrpc.St

#print axioms Panrpc.St.cur_handoff_guarded
#print axioms Panrpc.St.decoder_can_finish
#print axioms Panrpc.St.decoder_abort_enabled
#print axioms Panrpc.St.C15_no_silent_abort
#print axioms Panrpc.St.C15_decoder_abort_signals_readers
#print axioms Panrpc.St.C15_decoder_done_means_signalled
#print axioms Panrpc.St.C15_readers_can_always_leave
#print axioms Panrpc.St.C15_silent_abort_would_strand_reader
#print axioms Panrpc.St.C15_no_abort_on_pinned
#print axioms Panrpc.St.C15_decoder_done_means_signalled_on_pinned
#print axioms Panrpc.St.C05_decoder_done_closed_once
#print axioms Panrpc.St.C05_surplus_close_crashes
#print axioms Panrpc.St.C05_surplus_close_reaches_panic
#print axioms Panrpc.St.C05_single_close_no_crash
