/-
  Props/C08Param.lean — C08, "…and whichever serializer and wire payload type are plugged in (JSON
  with raw or byte-string payloads, CBOR, ...), up to the serializer's own value round-trip.
  Nothing in panrpc depends on message boundaries, payload type or encoding beyond the
  user-supplied functions."

  Models: P3 (Model/Wire.lean) for frames, the stream model (Model/Stream.lean) for the stream adapters.
  General lemmas: Lemmas/WireParam.lean, Lemmas/StreamParam.lean — none of them has a hypothesis
  on the skeleton; the statements below are their instances at `Skeleton.current`.  (Only
  `C08_link_kind_irrelevant` uses facts about the current source: the envelope literals and the
  struct tags.)

  Reading.  Two serializer configurations `σ₁ : Codec V P₁`, `σ₂ : Codec V P₂` for the same
  application values are related by a payload translation `f : P₁ → P₂` when `CodecHom f σ₁ σ₂`:
  `σ₂` encodes like `σ₁` followed by `f` and decodes an `f`-image like `σ₁` decodes the original.
  (E.g. JSON text ↦ its UTF-8 bytes; `text_bytes_hom`, Lemmas/WireParam.lean, is such a pair, and
  `CodecHom.pushforward` shows every injective re-encoding of a serializer's output gives one.)
  Then every frame panrpc builds under `σ₂` is the `Tree.map f`-image of the frame it builds under
  `σ₁`, every frame decoder commutes with `Tree.map f`, and everything the applications observe
  of a call is EQUAL.
-/
import Panrpc.Lemmas.WireParam
import Panrpc.Lemmas.StreamParam
import Panrpc.Lemmas.WireCurrent

namespace Panrpc.Param
open Panrpc Panrpc.Wire

/-! ### frames -/

/-- **Payload parametricity.**  One call — the stub builds the request, the link carries it
    (message link, or stream link with envelope), the callee decodes it and the arguments, the
    handler `hdl` runs on the decoded arguments, the callee builds the response, the link carries
    it back, the response loop and the stub decode it — has the same observables (stub panic,
    call id and function name seen by the callee, decoded handler arguments, call id of the
    response, the stub's `CallResult`) under any two serializers related by a codec
    homomorphism. -/
theorem C08_payload_parametric {V P₁ P₂ : Type} {f : P₁ → P₂} {σ₁ : Codec V P₁} {σ₂ : Codec V P₂}
    (h : CodecHom f σ₁ σ₂) (stream : Bool) (callId name : String) (args : List (Arg V))
    (paramTys : List Nat) (hdl : String → List (Option V) → Ret V) (prev : Option String)
    (numOut : Nat) (outIsErr : Bool) (ty : Nat) :
    callObservables Skeleton.current σ₂ stream callId name args paramTys hdl prev numOut outIsErr ty =
      callObservables Skeleton.current σ₁ stream callId name args paramTys hdl prev numOut outIsErr ty :=
  roundtrip_param h Skeleton.current stream callId name args paramTys hdl prev numOut outIsErr ty

/-- **Frame construction is functorial in the payload type**: the request frame, the outcome of the
    stub's frame building (same panics), the response frame and the stream envelope under `σ₂` are
    the `f`-images of those under `σ₁`. -/
theorem C08_frames_functorial {V P₁ P₂ : Type} {f : P₁ → P₂} {σ₁ : Codec V P₁} {σ₂ : Codec V P₂}
    (h : CodecHom f σ₁ σ₂) :
    (∀ callId name args,
       mkRequest Skeleton.current σ₂ callId name args = (mkRequest Skeleton.current σ₁ callId name args).map f) ∧
    (∀ callId name args,
       stubBuild Skeleton.current σ₂ callId name args = (stubBuild Skeleton.current σ₁ callId name args).map f) ∧
    (∀ reqCall r,
       mkResponse Skeleton.current σ₂ reqCall r = (mkResponse Skeleton.current σ₁ reqCall r).map f) ∧
    (∀ isRequest (t : Tree P₁),
       mkEnvelope Skeleton.current isRequest (t.map f) = (mkEnvelope Skeleton.current isRequest t).map f) :=
  ⟨mkRequest_map h _, stubBuild_map h _, mkResponse_map h _, mkEnvelope_map f _⟩

/-- **Frame decoding is natural in the payload type** — for *every* frame, not only panrpc's own:
    Go's request decoder and the independent decoders return the same strings and the translated
    payloads; decoding payloads into values (handler arguments, the stub's result) gives equal
    values; the error the response loop publishes does not involve payloads at all (`respErr` has
    no payload or codec argument). -/
theorem C08_decoders_natural {V P₁ P₂ : Type} {f : P₁ → P₂} {σ₁ : Codec V P₁} {σ₂ : Codec V P₂}
    (h : CodecHom f σ₁ σ₂) :
    (∀ t : Tree P₁, goDecodeRequest Skeleton.current (t.map f) =
       (goDecodeRequest Skeleton.current t).map (fun x => (x.1, x.2.1, x.2.2.map f))) ∧
    (∀ t : Tree P₁, parseRequest (t.map f) = (parseRequest t).map (fun x => (x.1, x.2.1, x.2.2.map f))) ∧
    (∀ t : Tree P₁, parseResponse (t.map f) = (parseResponse t).map (fun x => (x.1, f x.2.1, x.2.2))) ∧
    (∀ t : Tree P₁, parseEnvelope (t.map f) = (parseEnvelope t).map (fun x => (x.1, x.2.map f))) ∧
    (∀ ps tys, handlerArgs σ₂ (ps.map f) tys = handlerArgs σ₁ ps tys) ∧
    (∀ numOut outIsErr cancelled p err ty,
       decodeResult Skeleton.current σ₂ numOut outIsErr cancelled (f p) err ty =
         decodeResult Skeleton.current σ₁ numOut outIsErr cancelled p err ty) ∧
    (∀ prev numOut outIsErr ty (t : Tree P₁),
       callerResult Skeleton.current σ₂ prev numOut outIsErr ty (t.map f) =
         callerResult Skeleton.current σ₁ prev numOut outIsErr ty t) ∧
    (∀ τ v, rt σ₂ τ v = rt σ₁ τ v) :=
  ⟨goDecodeRequest_map f _, parseRequest_map f, parseResponse_map f, parseEnvelope_map f,
   handlerArgs_hom h, decodeResult_hom h _, callerResult_hom h _, rt_hom h⟩

/-- **The link kind does not matter either**: on the current tree one call has the same observables
    over a stream link (write adapter wraps, decoder goroutine unwraps) as over a message link. -/
theorem C08_link_kind_irrelevant {V P : Type} (σ : Codec V P) (callId name : String) (args : List (Arg V))
    (paramTys : List Nat) (hdl : String → List (Option V) → Ret V) (prev : Option String)
    (numOut : Nat) (outIsErr : Bool) (ty : Nat) :
    callObservables Skeleton.current σ true callId name args paramTys hdl prev numOut outIsErr ty =
      callObservables Skeleton.current σ false callId name args paramTys hdl prev numOut outIsErr ty :=
  callObservables_stream_eq_message Skeleton.current cur_env cur_tags σ callId name args paramTys hdl
    prev numOut outIsErr ty

/-- Both at once: {message, stream} × {σ₁, σ₂} — all four configurations agree. -/
theorem C08_link_and_payload_irrelevant {V P₁ P₂ : Type} {f : P₁ → P₂} {σ₁ : Codec V P₁} {σ₂ : Codec V P₂}
    (h : CodecHom f σ₁ σ₂) (s₁ s₂ : Bool) (callId name : String) (args : List (Arg V))
    (paramTys : List Nat) (hdl : String → List (Option V) → Ret V) (prev : Option String)
    (numOut : Nat) (outIsErr : Bool) (ty : Nat) :
    callObservables Skeleton.current σ₂ s₂ callId name args paramTys hdl prev numOut outIsErr ty =
      callObservables Skeleton.current σ₁ s₁ callId name args paramTys hdl prev numOut outIsErr ty := by
  rw [C08_payload_parametric h]
  cases s₁ <;> cases s₂
  · rfl
  · exact C08_link_kind_irrelevant ..
  · exact (C08_link_kind_irrelevant ..).symm
  · rfl

/-! ### the stream adapters -/

open Panrpc.St in
/-- **The stream adapters are blind to payload content.**  For every relabelling `g` of the
    payloads: `step` commutes with it in every state for every action (no action carries a
    payload); reachable states map to reachable states; under every schedule from the relabelled
    input the schedule is enabled iff it was, each read adapter has returned the `g`-images of what
    it returned before, in the same order, and the errors the adapters returned and all control
    state are the same. -/
theorem C08_stream_payload_blind (g : Payload → Payload) :
    (∀ s a, (step Skeleton.current s a).map (mapState g) = step Skeleton.current (mapState g s) a) ∧
    (∀ inp s, Reach Skeleton.current inp s → Reach Skeleton.current (mapInp g inp) (mapState g s)) ∧
    (∀ inp acts,
      run Skeleton.current (init (mapInp g inp)) acts = (run Skeleton.current (init inp) acts).map (mapState g) ∧
      (run Skeleton.current (init (mapInp g inp)) acts).map (·.gotReq) =
        (run Skeleton.current (init inp) acts).map (·.gotReq.map g) ∧
      (run Skeleton.current (init (mapInp g inp)) acts).map (·.gotRes) =
        (run Skeleton.current (init inp) acts).map (·.gotRes.map g) ∧
      (run Skeleton.current (init (mapInp g inp)) acts).map (·.reqEnd) =
        (run Skeleton.current (init inp) acts).map (·.reqEnd) ∧
      (run Skeleton.current (init (mapInp g inp)) acts).map (·.resEnd) =
        (run Skeleton.current (init inp) acts).map (·.resEnd) ∧
      (run Skeleton.current (init (mapInp g inp)) acts).map ctrl =
        (run Skeleton.current (init inp) acts).map ctrl) :=
  ⟨step_map g _, fun _ _ h => reach_map g _ h, run_observables_map g _⟩

open Panrpc.St in
/-- Hence demultiplexing depends only on the *shape* of the decoded stream: two streams that are
    equal after erasing every payload show the same control behaviour, errors and delivery counts
    under every schedule. -/
theorem C08_stream_shape_only (inp₁ inp₂ : List (Option Envelope))
    (hshape : mapInp (fun _ => 0) inp₁ = mapInp (fun _ => 0) inp₂) (acts : List Act) :
    (run Skeleton.current (init inp₁) acts).map ctrl = (run Skeleton.current (init inp₂) acts).map ctrl :=
  run_ctrl_of_same_shape _ inp₁ inp₂ hshape acts

/-! ### non-vacuity -/

/-- `respErr` has no payload, payload-type or codec argument: nothing to translate -/
example : Skeleton → Option String → String → Option String := respErr

/-- a concrete homomorphism: text payloads ↦ byte-string payloads -/
example : CodecHom bytesOf textCodec bytesCodec := text_bytes_hom

/-- the handler of the examples: `Add` increments its first argument, anything else fails -/
def exHdl : String → List (Option Val) → Ret Val
  | "Add", some (.num n) :: _ => .two (.num (n + 1)) none
  | _, _ => .two (.num 0) (some "no such function")

/-- `C08_payload_parametric` instantiated -/
example (stream : Bool) (args : List (Arg Val)) :
    callObservables Skeleton.current bytesCodec stream "c1" "Add" args [0, 1, 1] exHdl none 2 false 0 =
      callObservables Skeleton.current textCodec stream "c1" "Add" args [0, 1, 1] exHdl none 2 false 0 :=
  C08_payload_parametric text_bytes_hom ..

deriving instance DecidableEq for CallResult
deriving instance DecidableEq for CallObs

/-- …and the common value is a completed call: the handler saw the three decoded arguments (the
    func argument as its closure id), the stub returned `42, nil`. -/
example : callObservables Skeleton.current textCodec false "c1" "Add"
      [.ctx, .val (.num 41) 0, .val (.str "hi") 1, .func "clo-7"] [0, 1, 1] exHdl none 2 false 0 =
    .done "c1" "Add" [some (.num 41), some (.str "hi"), some (.str "clo-7")] (some "c1")
      (.valErr (some (.num 42)) none) := rfl

example : callObservables Skeleton.current bytesCodec true "c1" "Add"
      [.ctx, .val (.num 41) 0, .val (.str "hi") 1, .func "clo-7"] [0, 1, 1] exHdl none 2 false 0 =
    .done "c1" "Add" [some (.num 41), some (.str "hi"), some (.str "clo-7")] (some "c1")
      (.valErr (some (.num 42)) none) := rfl

/-- a decoding failure is the same failure on both sides (a string sent where the callee declares
    a number: the argument does not decode; the handler's error comes back) -/
example : callObservables Skeleton.current bytesCodec false "c2" "Add" [.ctx, .val (.str "x") 0] [0] exHdl none 2 false 0 =
    .done "c2" "Add" [none] (some "c2") (.valErr (some (.num 0)) (some "no such function")) := rfl

/-- the frames themselves differ (text vs. code points) and are related by `Tree.map bytesOf` -/
example : mkRequest Skeleton.current bytesCodec "c" "F" [.ctx, .val (.num 7) 0] =
    .obj [("call", .str "c"), ("function", .str "F"), ("args", .arr [.raw [55]])] := rfl

example : mkRequest Skeleton.current textCodec "c" "F" [.ctx, .val (.num 7) 0] =
    .obj [("call", .str "c"), ("function", .str "F"), ("args", .arr [.raw "7"])] := rfl

open Panrpc.St in
/-- stream: relabelling `p ↦ p + 100` — same schedule, relabelled deliveries, same errors -/
example : (run Skeleton.current
      (init (mapInp (· + 100) [some { req := some 1, res := some 2 }, some { req := none, res := some 3 }, none]))
      [.decRead, .handReq, .handRes, .decRead, .handRes, .decRead, .decFinish, .readDoneReq, .readDoneRes]).map
    (fun s => decide (s.gotReq = [101] ∧ s.gotRes = [102, 103] ∧ s.reqEnd = some (some (.decode 2)) ∧
                      s.resEnd = some (some (.decode 2)))) = some true := rfl

open Panrpc.St in
/-- the hypothesis of `C08_stream_shape_only` is satisfiable by different streams -/
example : mapInp (fun _ => 0) [some { req := some 1, res := none }, none] =
          mapInp (fun _ => 0) [some { req := some 9, res := none }, none] := rfl

end Panrpc.Param

#print axioms Panrpc.Param.C08_payload_parametric
#print axioms Panrpc.Param.C08_frames_functorial
#print axioms Panrpc.Param.C08_decoders_natural
#print axioms Panrpc.Param.C08_link_kind_irrelevant
#print axioms Panrpc.Param.C08_link_and_payload_irrelevant
#print axioms Panrpc.Param.C08_stream_payload_blind
#print axioms Panrpc.Param.C08_stream_shape_only
