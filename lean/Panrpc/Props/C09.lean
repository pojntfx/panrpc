/-
  Props/C09.lean — "The values a handler receives are, position by position, what the caller passed
  after one encode/decode through the configured serializer into the handler's declared parameter
  types, and the value the caller gets back is the handler's return value after the same round-trip
  into the caller's declared result type; the context argument is never transmitted.  This holds for
  all parameter counts …"

  Wire-level part, on P3 (Model/Wire.lean): what is put into the frame, what the other side takes
  out of that frame.  That the frame built for call `c` is the one the handler for `c` sees, and its
  response the one the caller of `c` gets, under every interleaving, is C01 (M2/M3).
  All theorems are about `Skeleton.current`; `σ` is any serializer; arity is any (`rest : List _`).
-/
import Panrpc.Lemmas.WireCurrent

namespace Panrpc.Wire

/-- For every arity: decoding the request frame with Go's decoder and unmarshalling position by
    position into the handler's parameter types `tys` yields, at each position, the caller's argument
    at that position after one round trip (`argValue σ (.val v _) = v`; a func argument is its
    closure id, a string).  `a` is the caller's first argument (the context). -/
theorem C09_args_in_order {V P : Type} (σ : Codec V P) (callId name : String) (a : Arg V)
    (rest : List (Arg V)) (tys : List Nat) :
    (goDecodeRequest Skeleton.current (mkRequest Skeleton.current σ callId name (a :: rest))).map
        (fun rq => handlerArgs σ rq.2.2 tys)
      = some (List.zipWith (fun x τ => rt σ τ (argValue σ x)) rest tys) := by
  rw [goDecodeRequest_mkRequest _ cur_req cur_tags]
  simp [handlerArgs, rt, List.zipWith_map_left]

/-- The same, position by position. -/
theorem C09_args_pointwise {V P : Type} (σ : Codec V P) (callId name : String) (a : Arg V)
    (rest : List (Arg V)) (tys : List Nat) (i : Nat) (x : Arg V) (τ : Nat)
    (hx : rest[i]? = some x) (hτ : tys[i]? = some τ) :
    (goDecodeRequest Skeleton.current (mkRequest Skeleton.current σ callId name (a :: rest))).map
        (fun rq => (handlerArgs σ rq.2.2 tys)[i]?)
      = some (some (rt σ τ (argValue σ x))) := by
  rw [goDecodeRequest_mkRequest _ cur_req cur_tags]
  simp [handlerArgs, rt, List.getElem?_zipWith, hx, hτ]

/-- The frame has exactly arity − 1 arguments, and it does not depend on the first argument at all:
    nothing of the context is transmitted. -/
theorem C09_ctx_not_transmitted {V P : Type} (σ : Codec V P) (callId name : String) (a : Arg V)
    (rest : List (Arg V)) :
    (reqArgsField Skeleton.current (mkRequest Skeleton.current σ callId name (a :: rest))).map List.length
        = some ((a :: rest).length - 1)
    ∧ ∀ b : Arg V, mkRequest Skeleton.current σ callId name (a :: rest)
        = mkRequest Skeleton.current σ callId name (b :: rest) := by
  constructor
  · rw [reqArgsField_mkRequest _ cur_req]; simp
  · intro b; exact mkRequest_first_irrelevant _ cur_req.ctxSkipped σ callId name a b rest

/-- The value the caller's stub returns is the handler's value after one round trip into the caller's
    declared result type `τ` — for a function returning one value (`NumOut() = 1`, not an error type)
    and for a function returning value and (here nil) error (`NumOut() = 2`).  A failing `unmarshal`
    makes the stub panic (recovered → setErr).  With a non-nil error: `C10_value_with_error`.
    (A local function returning a single value answers with the very frame a two-result function
    with a nil error answers with, so a remote declared `(T, error)` for it gets the second form.) -/
theorem C09_result_roundtrip {V P : Type} (σ : Codec V P) (reqCall : String) (v : V)
    (prev : Option String) (τ : Nat) (o : Bool) :
    callerResult Skeleton.current σ prev 1 false τ (mkResponse Skeleton.current σ reqCall (.oneVal v))
      = some (.ofDec1 (rt σ τ v))
    ∧ callerResult Skeleton.current σ prev 2 o τ (mkResponse Skeleton.current σ reqCall (.two v none))
      = some (.ofDec2 none (rt σ τ v))
    ∧ mkResponse Skeleton.current σ reqCall (.oneVal v) = mkResponse Skeleton.current σ reqCall (.two v none) := by
  refine ⟨?_, ?_, rfl⟩
  · rw [callerResult_mkResponse _ cur_res cur_err_value_distinct]
    simp only [respErrStr, respValue, respErr_empty _ cur_dec, decodeResult_one_val, rt]
  · rw [callerResult_mkResponse _ cur_res cur_err_value_distinct]
    simp only [respErrStr, respValue, respErr_empty _ cur_dec, decodeResult_two _ cur_dec, rt]

/-! ### non-vacuity (V = P = String, `idCodec`: unmarshal into type 9 fails) -/

/-- three arguments after the context, one of them a closure; the handler's third parameter type
    cannot be decoded -/
example : (goDecodeRequest Skeleton.current
      (mkRequest Skeleton.current idCodec "id" "F" [.ctx, .val "a" 1, .func "cl-7", .val "b" 2])).map
      (fun rq => handlerArgs idCodec rq.2.2 [1, 0, 9]) = some [some "a", some "cl-7", none] := rfl

/-- arity 1: only the context, nothing transmitted -/
example : reqArgsField Skeleton.current (mkRequest Skeleton.current idCodec "id" "F" [.ctx]) = some [] := rfl

example : callerResult Skeleton.current idCodec none 2 true 3
    (mkResponse Skeleton.current idCodec "id" (.two "v" none)) = some (.valErr (some "v") none) := rfl
example : callerResult Skeleton.current idCodec none 1 false 9
    (mkResponse Skeleton.current idCodec "id" (.oneVal "v")) = some (.panic "unmarshal") := rfl

/-- The wire model encodes THE value the handler returned. `utils.Call` hands back exactly what the function returned —
    `out = fn.Call(in)` is the only write to its result list (checked against the regenerated skeleton; `utils/call.go`
    is not among this property's anchors, yet every handler's and every closure's results pass through it). (A nil slice
    or map replaced by an empty one there arrives as `[]` / `{}` instead of `null`: not the handler's value after one
    round-trip.) -/
theorem C09_results_pass_through_utils_call :
    Skeleton.current.ucResultsUntouched = true := by decide

/-- Every argument of a closure invocation goes through `convertValue` (which maps the untyped nil a `null` decodes to
    onto the zero value of the declared type); no fast path skips it (checked against the regenerated skeleton). -/
theorem C09_closure_arguments_all_converted :
    Skeleton.current.clConvertsEveryArg = true ∧ Skeleton.current.cvHandlesInvalid = true := by decide

end Panrpc.Wire

#print axioms Panrpc.Wire.C09_args_in_order
#print axioms Panrpc.Wire.C09_args_pointwise
#print axioms Panrpc.Wire.C09_ctx_not_transmitted
#print axioms Panrpc.Wire.C09_result_roundtrip
#print axioms Panrpc.Wire.C09_results_pass_through_utils_call
#print axioms Panrpc.Wire.C09_closure_arguments_all_converted
