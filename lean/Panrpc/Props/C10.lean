/-
  Props/C10.lean — "If a handler or closure returns a non-nil error whose message contains a
  non-blank character, the caller's call returns a non-nil error with exactly that message, together
  with the accompanying value if the function returns one; if it returns a nil error the caller gets
  a nil error.  An application-level error never terminates the link."

  Wire-level part, on P3 (Model/Wire.lean): handler's return → response frame → the caller's response
  loop (`strings.TrimSpace(res.Err) != ""`, with Go's `unicode.IsSpace` table) → the stub's result.
  Closures take the same path (`CallClosure` is a two-result RPC built by the same `makeRPC`).
  "never terminates the link" (no `setErr` on this path) is `C10_not_fatal`, about the callee model (Props/C10Callee.lean).
  The property theorems are about `Skeleton.current` (the witness theorems say in their statements which other
  skeleton they are about); `prev` is whatever the loop's `err` variable held
  before (irrelevant, because it is declared per frame).
-/
import Panrpc.Lemmas.WireCurrent

namespace Panrpc.Wire

/-- A non-nil error whose message `m` has a non-blank character arrives as a non-nil error with
    exactly the message `m` (nothing trimmed), for a function returning only an error and for one
    returning value and error. -/
theorem C10_message_exact {V P : Type} (σ : Codec V P) (reqCall m : String) (v : V) (prev : Option String)
    (τ : Nat) (hm : ∃ c ∈ m.toList, isGoSpace c = false) :
    (resErrField Skeleton.current (mkResponse Skeleton.current σ reqCall (.oneErr (some m) : Ret V))).map
        (respErr Skeleton.current prev) = some (some m)
    ∧ (resErrField Skeleton.current (mkResponse Skeleton.current σ reqCall (.two v (some m)))).map
        (respErr Skeleton.current prev) = some (some m)
    ∧ callerResult Skeleton.current σ prev 1 true τ
        (mkResponse Skeleton.current σ reqCall (.oneErr (some m) : Ret V)) = some (.errOnly (some m)) := by
  refine ⟨?_, ?_, ?_⟩
  · rw [resErrField_mkResponse _ cur_res]; simp [respErrStr, respErr_nonblank _ cur_dec prev m hm]
  · rw [resErrField_mkResponse _ cur_res]; simp [respErrStr, respErr_nonblank _ cur_dec prev m hm]
  · rw [callerResult_mkResponse _ cur_res cur_err_value_distinct]
    simp only [respErrStr, respErr_nonblank _ cur_dec prev m hm, decodeResult_one_err _ cur_dec]

/-- Value and error: the caller gets the value after one round trip into its declared type `τ`
    together with the error `m`.  (If that `unmarshal` fails the stub panics → setErr, error or not.) -/
theorem C10_value_with_error {V P : Type} (σ : Codec V P) (reqCall m : String) (v : V) (prev : Option String)
    (τ : Nat) (o : Bool) (hm : ∃ c ∈ m.toList, isGoSpace c = false) :
    callerResult Skeleton.current σ prev 2 o τ (mkResponse Skeleton.current σ reqCall (.two v (some m)))
      = some (.ofDec2 (some m) (rt σ τ v)) := by
  rw [callerResult_mkResponse _ cur_res cur_err_value_distinct]
  simp only [respErrStr, respValue, respErr_nonblank _ cur_dec prev m hm, decodeResult_two _ cur_dec, rt]

/-- A nil error arrives as a nil error, whatever an earlier frame carried. -/
theorem C10_nil_stays_nil {V P : Type} (σ : Codec V P) (reqCall : String) (v : V) (prev : Option String)
    (τ : Nat) (o : Bool) :
    callerResult Skeleton.current σ prev 1 true τ
        (mkResponse Skeleton.current σ reqCall (.oneErr none : Ret V)) = some (.errOnly none)
    ∧ callerResult Skeleton.current σ prev 2 o τ (mkResponse Skeleton.current σ reqCall (.two v none))
        = some (.ofDec2 none (rt σ τ v)) := by
  constructor
  · rw [callerResult_mkResponse _ cur_res cur_err_value_distinct]
    simp only [respErrStr, respErr_empty _ cur_dec, decodeResult_one_err _ cur_dec]
  · rw [callerResult_mkResponse _ cur_res cur_err_value_distinct]
    simp only [respErrStr, respValue, respErr_empty _ cur_dec, decodeResult_two _ cur_dec, rt]

/-- The class the property excludes, as a fact about the code: a non-nil error whose message consists
    of blank characters only (including the empty message, F7) arrives as a nil error. -/
theorem C10_blank_message_arrives_nil {V P : Type} (σ : Codec V P) (reqCall m : String) (v : V)
    (prev : Option String) (τ : Nat) (o : Bool) (hm : ∀ c ∈ m.toList, isGoSpace c = true) :
    callerResult Skeleton.current σ prev 1 true τ
        (mkResponse Skeleton.current σ reqCall (.oneErr (some m) : Ret V)) = some (.errOnly none)
    ∧ callerResult Skeleton.current σ prev 2 o τ (mkResponse Skeleton.current σ reqCall (.two v (some m)))
        = some (.ofDec2 none (rt σ τ v)) := by
  constructor
  · rw [callerResult_mkResponse _ cur_res cur_err_value_distinct]
    simp only [respErrStr, respErr_blank _ cur_dec prev m hm, decodeResult_one_err _ cur_dec]
  · rw [callerResult_mkResponse _ cur_res cur_err_value_distinct]
    simp only [respErrStr, respValue, respErr_blank _ cur_dec prev m hm, decodeResult_two _ cur_dec, rt]

/-- `strings.TrimSpace(s) != ""` exactly when `s` has a character outside Go's `unicode.IsSpace`. -/
theorem C10_trimSpace_spec (s : List Char) : trimSpace s ≠ [] ↔ ∃ c ∈ s, isGoSpace c = false :=
  trimSpace_ne_nil_iff s

/-! ### non-vacuity -/

/-- the hypothesis of `C10_message_exact`: a message wrapped in blanks (U+00A0 in front, "\n\t" behind) -/
example : ∃ c ∈ "\u00a0boom\n\t".toList, isGoSpace c = false := ⟨'b', by decide, by decide⟩
example : respErr Skeleton.current none "\u00a0boom\n\t" = some "\u00a0boom\n\t" := rfl
example : callerResult Skeleton.current idCodec none 2 true 3
    (mkResponse Skeleton.current idCodec "id" (.two "v" (some " x "))) = some (.valErr (some "v") (some " x ")) := rfl
example : callerResult Skeleton.current idCodec (some "stale") 1 true 0
    (mkResponse Skeleton.current idCodec "id" (.oneErr none : Ret String)) = some (.errOnly none) := rfl
/-- the hypothesis of `C10_blank_message_arrives_nil`: every code point of Go's table -/
example : ∀ c ∈ "\t\n\x0b\x0c\r \u0085\u00a0\u1680\u2000\u2001\u2002\u2003\u2004\u2005\u2006\u2007\u2008\u2009\u200a\u2028\u2029\u202f\u205f\u3000".toList,
    isGoSpace c = true := by decide
example : respErr Skeleton.current none "\u0085\u00a0\u2003\u3000 " = none := rfl
/-- neighbours of the table that are NOT white space for Go: U+200B, U+FEFF, U+180E, U+001F, U+1FFF, U+2060 -/
example : ∀ c ∈ "\u200b\ufeff\u180e\x1f\x1c\u1fff\u2060\u00a1\u0084".toList, isGoSpace c = false := by decide
example : respErr Skeleton.current none "\u200b" = some "\u200b" := rfl
example : trimSpace " \t a b \n".toList = "a b".toList := rfl

/-- the source facts are load-bearing: were `err` declared outside the loop, an earlier frame's error would stick -/
example : respErr { Skeleton.current with respErrFreshPerFrame := false } (some "stale") "" = some "stale" := rfl

/-- For closures the "accompanying value" travels back through the proxy's result conversion, which is
    skipped only for an invalid (nil) result — never because the closure also returned an error
    (checked against the regenerated skeleton). -/
theorem C10_closure_value_kept_with_error : Skeleton.current.pxResultChecksValid = true := by decide

/-- "nil stays nil" for closures whose declared error result is a concrete pointer type: the wrapper decides
    "failed or not" by `IsNil()` on the last result and only then converts it to `error` (checked against the
    regenerated skeleton) — a type assertion alone would turn the nil pointer into a non-nil `error`. -/
theorem C10_closure_nil_error_stays_nil : Skeleton.current.clNilErrorViaIsNil = true := by decide

/-- The error the responder looks at is THE error the handler / closure returned. `utils.Call` hands back exactly what
    the function returned — `out = fn.Call(in)` is the only write to its result list (checked against the regenerated
    skeleton; `utils/call.go` is not among this property's anchors, yet every handler's and every closure's results pass
    through it). -/
theorem C10_results_pass_through_utils_call :
    Skeleton.current.ucResultsUntouched = true := by decide

/-- A closure that panics yields an error for that invocation, never the end of the link: the inner `utils.Call`
    recovers every panic, maps non-error values, and re-raises none (checked against the regenerated skeleton). -/
theorem C10_a_panicking_closure_is_an_error_not_a_dead_link :
    Skeleton.current.ucRecovers = true ∧ Skeleton.current.ucNonErrorPanicMapped = true ∧ Skeleton.current.panicSitesCanonical = true ∧ Skeleton.current.clCallViaUtilsCall = true := by decide

/-- The wire model answers EVERY handler outcome — whatever the error is, in particular errors that wrap sentinels the
    library gives a meaning to elsewhere (`context.Canceled`, `io.EOF`, `utils.ErrClosed`): the message travels. That is
    the code's responder only if there is no way out of it that neither writes the response nor ends the link: every
    `return` in the goroutine that runs the handler directly follows a `setErr(…)` (checked against the regenerated
    skeleton). A responder that leaves silently for some error values turns the handler's message into the caller's
    own deadline. -/
theorem C10_every_handler_outcome_is_answered :
    Skeleton.current.respEveryReturnReports = true ∧ Skeleton.current.errBranchesHandled = true := by decide

end Panrpc.Wire

#print axioms Panrpc.Wire.C10_message_exact
#print axioms Panrpc.Wire.C10_value_with_error
#print axioms Panrpc.Wire.C10_nil_stays_nil
#print axioms Panrpc.Wire.C10_blank_message_arrives_nil
#print axioms Panrpc.Wire.C10_trimSpace_spec
#print axioms Panrpc.Wire.C10_closure_value_kept_with_error
#print axioms Panrpc.Wire.C10_closure_nil_error_stays_nil
#print axioms Panrpc.Wire.C10_results_pass_through_utils_call
#print axioms Panrpc.Wire.C10_a_panicking_closure_is_an_error_not_a_dead_link
#print axioms Panrpc.Wire.C10_every_handler_outcome_is_answered
