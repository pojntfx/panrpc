/-
  Props/C10Callee.lean — C10, callee side: "An application-level error never terminates the link":
  a function that RETURNS — whatever its result shape, with a nil or a non-nil error — is answered
  with exactly one response carrying the request's call id and the error's message (`""` for nil),
  and `setErr` is not called on that path.  (What the caller makes of that response is
  Props/C10.lean, on Model/Wire.lean; `Shape.errStr` is `Wire.respErrStr` with the values erased.)

  Model: Model/Callee.lean.  The property theorems are about `Skeleton.current` (the witness theorems say in their
  statements which other skeleton they are about).
-/
import Panrpc.Lemmas.CalleeCurrent

namespace Panrpc.Ce

/-- Any run of a request's life in which the function returns `r` (any of the four shapes, error nil
    or not, any message) and neither marshal nor write fails: `setErr` is never called, nothing
    crashes, nothing is written before the end, and at the end exactly one response has been
    written: `(req.Call, Err r)`. -/
theorem C10_not_fatal (cid : String) (cl : Bool) (r : Shape) (acts : List Act) (s' : State)
    (hrun : run Skeleton.current (init cid cl) acts = some s')
    (hret : Act.handlerReturns r ∈ acts)
    (hm : Act.marshalFails ∉ acts) (hw : Act.writeFails ∉ acts) :
    s'.setErrCalls = [] ∧ s'.crashed = false ∧
    s'.responses = (if s'.pc = .done then [(cid, r.errStr)] else []) :=
  returns_not_fatal _ cur_hyp cur_resp cid cl r acts s' hrun hret hm hw

/-- … and that end is reachable from every state in which the function is running: return, marshal
    and write are enabled one after the other (a closure entry returns `CallClosure`'s two results). -/
theorem C10_not_fatal_enabled (cid : String) (cl : Bool) (s : State) (r : Shape)
    (h : Reach Skeleton.current cid cl s) (hpc : s.pc = .running) (hcl : cl = false ∨ r.isTwo = true) :
    run Skeleton.current s [.handlerReturns r, .marshalOk, .respond] =
      some { s with pc := .done, responses := [(cid, r.errStr)] } := by
  have g := reach_good _ cur_hyp h
  have q := quiet g (by simp [hpc])
  have := returns_run _ cur_resp s r hpc (by rw [g.clOk]; exact hcl)
  simpa [q.1, g.idOk] using this

/-- The error message travels unchanged: `Err` is `""` exactly for the shapes without a non-nil error. -/
theorem C10_err_field (m : String) :
    Shape.none0.errStr = "" ∧ Shape.oneVal.errStr = "" ∧ (Shape.oneErr none).errStr = "" ∧
    (Shape.two none).errStr = "" ∧ (Shape.oneErr (some m)).errStr = m ∧ (Shape.two (some m)).errStr = m :=
  ⟨rfl, rfl, rfl, rfl, rfl, rfl⟩

/-- In every reachable state: at most one response, and it carries the request's call id; before the
    end nothing has been written and `setErr` has not been called; at the end exactly one response
    unless `setErr` was called — and then it was called once and nothing was written. -/
theorem C10_one_response_per_request (cid : String) (cl : Bool) (s : State)
    (h : Reach Skeleton.current cid cl s) :
    s.responses.length ≤ 1 ∧ (∀ x ∈ s.responses, x.1 = cid) ∧
    (s.pc ≠ .done → s.responses = [] ∧ s.setErrCalls = []) ∧
    (s.pc = .done → s.setErrCalls = [] → s.responses.length = 1) ∧
    (s.setErrCalls ≠ [] → s.pc = .done ∧ s.responses = [] ∧ s.setErrCalls.length = 1) :=
  one_response _ cur_hyp h

/-! ### non-vacuity: every shape, nil and non-nil, ordinary and closure entry -/

example : (run Skeleton.current (init "id7" false)
      [.resolveOk, .start, .handlerReturns (.two (some " not found\n")), .marshalOk, .respond]).map
    (fun s => (s.pc, s.setErrCalls, s.responses, s.crashed))
    = some (.done, [], [("id7", " not found\n")], false) := rfl
example : (run Skeleton.current (init "id7" false)
      [.resolveOk, .start, .handlerReturns (.oneErr (some "denied")), .marshalOk, .respond]).map
    (fun s => (s.setErrCalls, s.responses)) = some ([], [("id7", "denied")]) := rfl
example : (run Skeleton.current (init "id7" false)
      [.resolveOk, .start, .handlerReturns (.oneErr none), .marshalOk, .respond]).map
    (fun s => (s.setErrCalls, s.responses)) = some ([], [("id7", "")]) := rfl
example : (run Skeleton.current (init "id7" false)
      [.resolveOk, .start, .handlerReturns .none0, .marshalOk, .respond]).map
    (fun s => (s.setErrCalls, s.responses)) = some ([], [("id7", "")]) := rfl
example : (run Skeleton.current (init "id7" false)
      [.resolveOk, .start, .handlerReturns .oneVal, .marshalOk, .respond]).map
    (fun s => (s.setErrCalls, s.responses)) = some ([], [("id7", "")]) := rfl
/-- `CallClosure` returning the closure's error (or `ErrClosureDoesNotExist`) -/
example : (run Skeleton.current (init "id8" true)
      [.resolveOk, .start, .handlerReturns (.two (some "closure does not exist")), .marshalOk, .respond]).map
    (fun s => (s.setErrCalls, s.responses)) = some ([], [("id8", "closure does not exist")]) := rfl
/-- the hypotheses of `C10_not_fatal` on such a run -/
example : Act.handlerReturns (.two (some "e")) ∈
      [Act.resolveOk, .start, .handlerReturns (.two (some "e")), .marshalOk, .respond] ∧
    Act.marshalFails ∉ [Act.resolveOk, .start, .handlerReturns (.two (some "e")), .marshalOk, .respond] ∧
    Act.writeFails ∉ [Act.resolveOk, .start, .handlerReturns (.two (some "e")), .marshalOk, .respond] := by decide
/-- what the hypotheses exclude: the serializer refuses the value, or the transport is gone — these
    DO end the link, with no response -/
example : (run Skeleton.current (init "id7" false)
      [.resolveOk, .start, .handlerReturns (.two none), .marshalFails]).map
    (fun s => (s.pc, s.setErrCalls, s.responses)) = some (.done, [.marshalFail], []) := rfl
example : (run Skeleton.current (init "id7" false)
      [.resolveOk, .start, .handlerReturns (.two none), .marshalOk, .writeFails]).map
    (fun s => (s.pc, s.setErrCalls, s.responses)) = some (.done, [.writeFail], []) := rfl
/-- after the end nothing more happens: no second response, no late `setErr` -/
example : ∀ a : Act, (run Skeleton.current (init "id7" false)
      [.resolveOk, .start, .handlerReturns (.two none), .marshalOk, .respond, a]) = none := by
  intro a
  cases a <;> rfl

/-! ### the source facts are load-bearing -/

/-- a branch that writes twice: two responses for one request -/
example : (run { Skeleton.current with reqOneResponsePerBranch := false } (init "id7" false)
      [.resolveOk, .start, .handlerReturns (.two none), .marshalOk, .respond, .respond]).map
    (fun s => s.responses.length) = some 2 := rfl
/-- a `Response` literal without `Call: req.Call`: the caller cannot match the answer -/
example : (run { Skeleton.current with reqResponseCallIsReqCall := false } (init "id7" false)
      [.resolveOk, .start, .handlerReturns (.two (some "e")), .marshalOk, .respond]).map
    (fun s => s.responses) = some [("", "e")] := rfl
/-- a branch that drops the error: the application error arrives as success -/
example : (run { Skeleton.current with reqRespShapesOk := false } (init "id7" false)
      [.resolveOk, .start, .handlerReturns (.two (some "e")), .marshalOk, .respond]).map
    (fun s => s.responses) = some [("id7", "")] := rfl

/-- a `utils.Call` that rewrites its result list (`ucResultsUntouched` flipped — e.g. "a zero-valued error is no
    error", "typed nil is nil"): the handler returned an error, the response says success -/
theorem C10_normalising_call_loses_the_error :
    (run { Skeleton.current with ucResultsUntouched := false } (init "id7" false)
      [.resolveOk, .start, .handlerReturns (.two (some "context deadline exceeded")), .marshalOk, .respond]).map
    (fun s => s.responses) = some [("id7", "")] ∧
    (run Skeleton.current (init "id7" false)
      [.resolveOk, .start, .handlerReturns (.two (some "context deadline exceeded")), .marshalOk, .respond]).map
    (fun s => s.responses) = some [("id7", "context deadline exceeded")] := by decide

end Panrpc.Ce

#print axioms Panrpc.Ce.C10_normalising_call_loses_the_error
#print axioms Panrpc.Ce.C10_not_fatal
#print axioms Panrpc.Ce.C10_not_fatal_enabled
#print axioms Panrpc.Ce.C10_err_field
#print axioms Panrpc.Ce.C10_one_response_per_request
