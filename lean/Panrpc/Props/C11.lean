/-
  Props/C11.lean — "A closure argument runs on the caller's side with the callee's arguments"
  (value part: what the caller's function receives, and what comes back to the invocation).

  Model: P4 (Model/Convert.lean): `convertValue`, the wrapper returned by `createClosure` as
  called by `CallClosure`, the result half of the closure proxy, and the generic decoders'
  image of the supported values (JSON: every number a float64; CBOR: uint64 / int64 / float64;
  both: arrays as `[]interface{}`, null as nil).  The "exactly once, concurrently, either
  direction" part of C11 is proved over M3 elsewhere.

  The property theorems are about `Skeleton.current` (the witness theorems say in their statements which other
  skeleton they are about), i.e. the facts regenerated from /repo on this run.
  The section "needs the F3 repair" holds the statements that need `cvHandlesInvalid`: they do not
  type-check against the pinned tree — that is the finding, see `C11_nil_arg_panics_on_pinned`.
-/
import Panrpc.Lemmas.Convert
import Panrpc.Generated.Current
import Panrpc.Pinned

namespace Panrpc.Cv

/-! ### the source facts these theorems rest on -/

theorem cur_shape : CvShape Skeleton.current := by constructor <;> decide
theorem cur_fallback : Skeleton.current.cvFallbackError = true := by decide
theorem cur_count_checked : Skeleton.current.clArgCountChecked = true := by decide
theorem cur_call_recovered :
    (Skeleton.current.clCallViaUtilsCall && Skeleton.current.ucRecovers) = true := by decide

/-! ### C11, argument direction -/

/-- The function receives exactly the values the callee supplied, in order, as values of its
    declared parameter types: for every list of well-typed supported values (numbers, booleans,
    strings, slices of those, nested slices; zero and empty values included), under either
    generic decoder, the wrapper reaches the function, once, with `vals.map embed`.
    Nil slices are covered as soon as the source has the invalid-source guard (the hypothesis
    `cvHandlesInvalid || nilFree` is then true for every value; see the last section). -/
theorem C11_args_converted (c : Codec) (vals : List TVal)
    (h : ∀ v, v ∈ vals → v.wt = true ∧ (Skeleton.current.cvHandlesInvalid || v.nilFree) = true) :
    wrapper Skeleton.current (vals.map TVal.ty) (vals.map (genericOf c)) = .ran (vals.map TVal.embed) :=
  wrapper_generic _ cur_shape c vals h

/-- `C11_convert_total`, the part that holds on every tree: a source value with no nil anywhere
    inside (no zero Value, no nil interface element) never makes `convertValue` panic, whatever
    the destination type.
    Full statement (last section): `∀ g τ, convertValue Skeleton.current g τ ≠ .panic`.
    Missing here: sources that are / contain nil. -/
theorem C11_convert_total_partial (g : GVal) (τ : Ty) (h : g.noInvalid = true) :
    convertValue Skeleton.current g τ ≠ .panic :=
  convertValue_ne_panic _ g τ (by simp [h])

/-- A wrong number of arguments is the ordinary error `ErrInvalidArgsCount`: nothing is
    converted, the function does not run, nothing panics. -/
theorem C11_arg_count_mismatch_is_error_not_panic (tys : List Ty) (args : List GVal)
    (h : args.length ≠ tys.length) :
    wrapper Skeleton.current tys args = .errResult .argsCount :=
  wrapper_count_mismatch _ cur_count_checked tys args h

/-- An argument whose (valid) value cannot be converted to the declared type — e.g. a string
    for an `int`, a number for a `bool`, a scalar for a slice, a map for a struct — makes the
    wrapper return `ErrInvalidArg` when the arguments before it converted; the function does
    not run and nothing panics. -/
theorem C11_inconvertible_is_error_not_panic
    (tpre : List Ty) (pre : List GVal) (τ : Ty) (a : GVal) (tpost : List Ty) (post : List GVal)
    (hl : pre.length = tpre.length) (hl' : post.length = tpost.length)
    (hp : ∀ p, p ∈ pre → ∀ σ, ∃ v, convertValue Skeleton.current p σ = .ok v)
    (hv : a.isInvalid = false) (hi : a.kind ≠ .iface)
    (hsl : τ.elem? = none ∨ (a.kind ≠ .sliceIface ∧ a.kind ≠ .sliceTyped))
    (hc : convertible a.kind τ = false) :
    wrapper Skeleton.current (tpre ++ τ :: tpost) (pre ++ a :: post) = .errResult .arg :=
  wrapper_err_at _ tpre pre τ a tpost post hl hl' (fun x hx => hp x.1 (List.of_mem_zip hx).1 x.2)
    (convertValue_err_of_inconvertible _ cur_fallback a τ hv hi hsl hc)

/-- Whatever the declared types and however many arguments: if no argument is or contains a
    nil, no panic leaves the wrapper (the outcome is a run or an ordinary error result). -/
theorem C11_valid_args_never_panic (tys : List Ty) (args : List GVal)
    (h : ∀ a, a ∈ args → a.noInvalid = true) :
    wrapper Skeleton.current tys args ≠ .panicOut :=
  wrapper_ne_panicOut _ cur_count_checked tys args fun a ha => by simp [h a ha]

/-- The wrapper hands the function's result value and error back unchanged (the value also
    when the error is non-nil); a panic of the function is recovered by `utils.Call` and
    becomes an error result. -/
theorem C11_wrapper_hands_back (v : GVal) (e : Option String) :
    wrapperReturn Skeleton.current (.ret2 v e) = some { value := some v, err := e } ∧
    wrapperReturn Skeleton.current (.ret1 e) = some { value := none, err := e } ∧
    wrapperReturn Skeleton.current .panicked = some { value := none, err := none, recoveredPanic := true } := by
  refine ⟨rfl, rfl, ?_⟩
  simp [wrapperReturn, cur_call_recovered]

/-! ### C11, result direction (the proxy on the callee's side)

`proxyResult sk true ρ el`: `true` = the `el.IsValid()` guard is present (the fact
`pxResultChecksValid`). -/

/-- A supported result value arrives converted to the proxy's declared result type; a nil
    slice result (and a nil result in general) leaves the zero value; this direction does not
    panic — none of this needs the F3 repair.  (`innerNilFree`: a nil slice *inside* a slice of
    slices is outside this statement unless the repair is in.) -/
theorem C11_result_back (c : Codec) (v : TVal) (hw : v.wt = true)
    (hn : (Skeleton.current.cvHandlesInvalid || v.innerNilFree) = true) :
    proxyResult Skeleton.current true v.ty (genericOf c v) = .ok v.embed :=
  proxyResult_generic _ cur_shape c v hw hn

theorem C11_result_back_nil (ρ : Ty) :
    proxyResult Skeleton.current true ρ .invalid = .ok (zeroOf ρ) :=
  proxyResult_nil _ ρ

theorem C11_result_back_never_panics (ρ : Ty) (el : GVal)
    (h : el = .invalid ∨ el.noInvalid = true) :
    proxyResult Skeleton.current true ρ el ≠ .panic :=
  proxyResult_ne_panic _ ρ el h

/-! ### the pinned tree: finding F3 -/

/-- `convertValue(reflect.ValueOf(nil), []string)` panics (`.Type()` on the zero Value) … -/
theorem C11_nil_arg_panics_on_pinned :
    convertValue Skeleton.pinned .invalid (.slice .string) = .panic := by decide

/-- … and so the panic leaves the wrapper, for `cb(ctx, nil, 0)` with
    `cb func(ctx, []string, int)`: the function does not run; the nil slice is the JSON (and
    CBOR) image of the supported value `[]string(nil)`. -/
theorem C11_nil_arg_panics_on_pinned_wrapper :
    wrapper Skeleton.pinned [.slice .string, .int] [.invalid, .float 0] = .panicOut ∧
    [TVal.slice .string true [], TVal.int 0].map (genericOf .json) = [.invalid, .float 0] ∧
    [TVal.slice .string true [], TVal.int 0].map TVal.ty = [.slice .string, .int] := by decide

/-- The same input with the guard added to the pinned skeleton: the function runs with a
    zero-length slice and 0 (the repair is enough). -/
theorem C11_nil_arg_ok_with_guard :
    wrapper { Skeleton.pinned with cvHandlesInvalid := true } [.slice .string, .int] [.invalid, .float 0]
      = .ran [.slice false [], .int 0] := by decide

/-! ### non-vacuity -/

/-- concrete supported values: zero, empty and negative values, a nested slice -/
def sampleVals : List TVal :=
  [.bool false, .int (-7), .uint 0, .float 3, .string "", .string "héllo",
   .slice .string false [], .slice .int false [.int 1, .int (-2), .int 0],
   .slice (.slice .uint) false [.slice .uint false [.uint 5], .slice .uint false []]]

example : ∀ v, v ∈ sampleVals → v.wt = true ∧ (Skeleton.current.cvHandlesInvalid || v.nilFree) = true := by
  decide

example : sampleVals.map (genericOf .json) =
    [.bool false, .float (-7), .float 0, .float 3, .string "", .string "héllo",
     .slice true [], .slice true [.iface (.float 1), .iface (.float (-2)), .iface (.float 0)],
     .slice true [.iface (.slice true [.iface (.float 5)]), .iface (.slice true [])]] := rfl

example : wrapper Skeleton.current (sampleVals.map TVal.ty) (sampleVals.map (genericOf .json))
    = .ran (sampleVals.map TVal.embed) := rfl

example : wrapper Skeleton.current (sampleVals.map TVal.ty) (sampleVals.map (genericOf .cbor))
    = .ran (sampleVals.map TVal.embed) := rfl

example : (sampleVals.map (genericOf .cbor)).take 3 = [.bool false, .int (-7), .uint 0] := rfl

-- arity mismatch, both ways
example : wrapper Skeleton.current [.int, .string] [.float 1] = .errResult .argsCount := rfl
example : wrapper Skeleton.current [.int] [.float 1, .string "x"] = .errResult .argsCount := rfl

-- inconvertible: a string for an int (second position), a bool for a float, a number for a slice
example : wrapper Skeleton.current [.int, .int] [.float 1, .string "x"] = .errResult .arg := rfl
example : wrapper Skeleton.current [.float] [.bool true] = .errResult .arg := rfl
example : wrapper Skeleton.current [.slice .int] [.float 1] = .errResult .arg := rfl
example : wrapper Skeleton.current [.slice .int] [.slice true [.iface (.float 1), .iface (.string "x")]]
    = .errResult .arg := rfl
example : wrapper Skeleton.current [.other] [.other] = .errResult .arg := rfl
-- the hypotheses of `C11_inconvertible_is_error_not_panic` are satisfiable
example : (GVal.string "x").isInvalid = false ∧ (GVal.string "x").kind ≠ .iface ∧
    Ty.int.elem? = none ∧ convertible (GVal.string "x").kind .int = false := by decide

-- `interface{}` parameters keep the generic value; integer → string is Go's rune conversion
example : convertValue Skeleton.current (.float 3) .anyIface = .ok (.iface (.float 3)) := rfl
example : convertValue Skeleton.current (.int 65) .string = .ok .other := rfl
example : convertValue Skeleton.current (.float 65) .string = .err := rfl

-- result direction: a value, a nil slice, a nil result for every type class
example : proxyResult Skeleton.current true (.slice .int) (genericOf .json (.slice .int false [.int 4]))
    = .ok (.slice false [.int 4]) := rfl
example : proxyResult Skeleton.current true (.slice .int) (genericOf .json (.slice .int true []))
    = .ok (.slice false []) := rfl
example : proxyResult Skeleton.current true .string .invalid = .ok (.string "") := rfl
-- without the guard the nil result would hit the same panic as the argument direction
example : proxyResult Skeleton.pinned false .string .invalid = .panic := rfl
-- a nil inside a decoded result (`[null]` for `[][]int`) is the one way this direction panics on the pinned tree
example : proxyResult Skeleton.pinned true (.slice (.slice .int)) (.slice true [.iface .invalid]) = .panic := by
  decide

/-! ### needs the F3 repair (`cvHandlesInvalid = true`): does not type-check on the pinned tree -/

/-- `C11_args_converted` with nil slices included, no side condition. -/
theorem C11_args_converted_nil_included (c : Codec) (vals : List TVal) (h : ∀ v, v ∈ vals → v.wt = true) :
    wrapper Skeleton.current (vals.map TVal.ty) (vals.map (genericOf c)) = .ran (vals.map TVal.embed) :=
  C11_args_converted c vals fun v hv => ⟨h v hv, rfl⟩

/-- `convertValue` has no panic outcome at all (nil included, at any depth). -/
theorem C11_convert_total (g : GVal) (τ : Ty) : convertValue Skeleton.current g τ ≠ .panic :=
  convertValue_ne_panic _ g τ rfl

/-- … hence no panic leaves the wrapper, whatever it is called with. -/
theorem C11_wrapper_total (tys : List Ty) (args : List GVal) :
    wrapper Skeleton.current tys args ≠ .panicOut :=
  wrapper_ne_panicOut _ cur_count_checked tys args fun _ _ => rfl

/-- The proxy side of the model (`proxyResult … guarded := true`, one argument list per invocation) is
    what the source does: the result is converted exactly when it is valid, and the `[]interface{}` list
    of an invocation is built inside the per-invocation function, so concurrent invocations of one
    closure never share it (checked against the regenerated skeleton). -/
theorem C11_proxy_matches_source :
    Skeleton.current.pxResultChecksValid = true ∧ Skeleton.current.pxArgsFreshPerInvocation = true := by decide

/-- Each callable the handler receives stands for the caller's function AT THAT ARGUMENT POSITION: the
    proxy decodes the closure id from its own position into a variable of the per-invocation literal and
    builds the `CallClosure` stub there (checked against the regenerated skeleton) — nothing is shared
    between two function-typed parameters of one call, between concurrent invocations, or between links. -/
theorem C11_each_callable_is_its_own_closure :
    Skeleton.current.pxClosureIdPerInvocation = true ∧ Skeleton.current.pxArgsFreshPerInvocation = true := by decide

/-- "…any number of times, also concurrently": `CallClosure` looks the closure up under the table's
    (plain) mutex and releases it BEFORE running the caller's function, and the table is touched only by
    register / look-up / release (checked against the regenerated skeleton).  So concurrent invocations
    run concurrently (they can wait for each other), and the function's body may itself make a
    closure-carrying call (which registers a closure, i.e. takes the same mutex) without deadlocking. -/
theorem C11_invocations_run_outside_the_table_lock :
    Skeleton.current.clInvokeOutsideLock = true ∧ Skeleton.current.clLockIsMutex = true ∧
    Skeleton.current.clLookupUnderLock = true := by decide

/-- The wrapper's result is what the caller's function returned. `utils.Call` hands back exactly what the function
    returned — `out = fn.Call(in)` is the only write to its result list (checked against the regenerated skeleton;
    `utils/call.go` is not among this property's anchors, yet every handler's and every closure's results pass through
    it). -/
theorem C11_results_pass_through_utils_call :
    Skeleton.current.ucResultsUntouched = true := by decide

/-- `C11_args_converted` is about a wrapper that applies `convertValue` to EVERY element of the decoded list, and the
    table holds that wrapper itself (checked against the regenerated skeleton). -/
theorem C11_every_argument_is_converted :
    Skeleton.current.clConvertsEveryArg = true ∧ Skeleton.current.clStoresCreatedClosure = true := by decide

/-- `Receive` fails only on a closed table — a context that is done already is registered and reported through the
    receive function, to that one caller — and the stub panics only on failures of the link (both checked against the
    regenerated skeleton; `utils/broadcaster.go` is outside this property's anchors). Otherwise a handler that invokes a
    callable (or makes any call) with a context of its own that has expired ends the link: every other invocation —
    running or later, with a perfectly live context — then fails with `closed` and the caller's function never runs for
    it. -/
theorem C11_an_invocation_with_an_expired_context_fails_alone :
    Skeleton.current.bcReceiveErrorsOnlyClosed = true ∧ Skeleton.current.panicSitesCanonical = true := by decide

end Panrpc.Cv

#print axioms Panrpc.Cv.C11_invocations_run_outside_the_table_lock
#print axioms Panrpc.Cv.C11_each_callable_is_its_own_closure
#print axioms Panrpc.Cv.C11_args_converted
#print axioms Panrpc.Cv.C11_convert_total_partial
#print axioms Panrpc.Cv.C11_arg_count_mismatch_is_error_not_panic
#print axioms Panrpc.Cv.C11_inconvertible_is_error_not_panic
#print axioms Panrpc.Cv.C11_valid_args_never_panic
#print axioms Panrpc.Cv.C11_wrapper_hands_back
#print axioms Panrpc.Cv.C11_result_back
#print axioms Panrpc.Cv.C11_result_back_nil
#print axioms Panrpc.Cv.C11_result_back_never_panics
#print axioms Panrpc.Cv.C11_nil_arg_panics_on_pinned
#print axioms Panrpc.Cv.C11_nil_arg_panics_on_pinned_wrapper
#print axioms Panrpc.Cv.C11_nil_arg_ok_with_guard
#print axioms Panrpc.Cv.C11_args_converted_nil_included
#print axioms Panrpc.Cv.C11_convert_total
#print axioms Panrpc.Cv.C11_wrapper_total
#print axioms Panrpc.Cv.C11_proxy_matches_source
#print axioms Panrpc.Cv.C11_results_pass_through_utils_call
#print axioms Panrpc.Cv.C11_every_argument_is_converted
#print axioms Panrpc.Cv.C11_an_invocation_with_an_expired_context_fails_alone
