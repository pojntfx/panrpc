/-
  Props/C12.lean — "Closures live exactly as long as the call that passed them".

  Model: M2.  The closure table (`closures`) is written by `callStart` (registerClosure, one
  fresh id per func argument) and by the deferred `freeClosure()`s, which run on *every* way out
  of the stub: `callReturnOk` (success, handler error, cancel) and `callRecover` (every panic
  path: marshal failure of a later argument, refused Receive, write failure, link end, decode
  failure) — before the recovering frame, because they were deferred after it.
  A peer's `CallClosure` is `closureInvoke q id`: its lookup under the lock is the
  linearization point of the invocation and is logged (hit / miss) in the ghost `invokes`; on a hit
  thread `q` then runs the closure's body (`running q`) until `closureBodyDone q`.  The table's mutex
  is `clLock`: held between steps only if `CallClosure` keeps it across the body
  (`sk.clInvokeOutsideLock = false`); registration, release and look-up need it free.
-/
import Panrpc.Lemmas.EndpointCurrent

namespace Panrpc.Ep

/-- The closure table is exactly the union of the closure ids of the calls in flight
    (registered and not yet returned), in every reachable state. -/
theorem C12_table_is_inflight : ∀ s, Reach Skeleton.current s → ∀ id,
    (s.closures id = true ↔ ∃ c, id ∈ (s.calls c).closures ∧ (s.calls c).pc ≠ .returned) := by
  intro s h id
  have hi := reach_ci _ cur_closurefreed h
  constructor
  · intro ht
    cases ho : s.owner id with
    | none => exact absurd ho (hi.tbl_owned id ht)
    | some c => exact ⟨c, hi.own_mem id c ho, hi.tbl_live id c ht ho⟩
  · rintro ⟨c, hm, hp⟩
    exact hi.live_tbl id c (hi.mem_own id c hm) hp

/-- the same, existential-free, through the ghost owner map -/
theorem C12_table_is_inflight_owner : ∀ s, Reach Skeleton.current s → ∀ id,
    s.closures id = (match s.owner id with
                     | some c => decide ((s.calls c).pc ≠ .returned)
                     | none => false) := by
  intro s h id
  have hi := reach_ci _ cur_closurefreed h
  cases ho : s.owner id with
  | none => exact hi.tbl_unowned ho
  | some c =>
    have : s.closures id = true ↔ (s.calls c).pc ≠ .returned := ⟨fun ht => hi.tbl_live id c ht ho, hi.live_tbl id c ho⟩
    rw [Bool.eq_iff_iff, this]; simp

/-- No registration outlives its call: with no call in flight the table is empty. -/
theorem C12_empty_when_idle : ∀ s, Reach Skeleton.current s →
    (∀ c, (s.calls c).pc = .absent ∨ (s.calls c).pc = .returned) → ∀ id, s.closures id = false := by
  intro s h hidle id
  refine Bool.of_not_eq_true fun ht => ?_
  obtain ⟨c, hm, hp⟩ := (C12_table_is_inflight s h id).mp ht
  rcases hidle c with ha | hr
  · simp [(reach_ci _ cur_closurefreed h).absent_nil c ha] at hm
  · exact hp hr

/-- A `CallClosure` whose lookup happens after the passing call returned (by whatever path) finds
    nothing: it is answered "closure does not exist" (a logged miss) — and a returned call
    stays returned, so this holds for ever after. -/
theorem C12_late_invocation_rejected : ∀ s, Reach Skeleton.current s → ∀ q id c,
    s.owner id = some c → (s.calls c).pc = .returned →
    (step Skeleton.current s (.closureInvoke q id)).map (·.invokes.head?) =
      some (some { thread := q, id := id, hit := false }) := by
  intro s h q id c ho hp
  rw [closureInvoke_logs _ cur_live h,
    Bool.of_not_eq_true fun ht => (reach_ci _ cur_closurefreed h).tbl_live id c ht ho hp]

theorem C12_returned_forever : ∀ s s' a, step Skeleton.current s a = some s' → ∀ c,
    (s.calls c).pc = .returned → (s'.calls c).pc = .returned :=
  fun _ _ => returned_stable _

/-- an id that no call ever registered is a miss, too -/
theorem C12_unknown_invocation_rejected : ∀ s, Reach Skeleton.current s → ∀ q id,
    s.owner id = none →
    (step Skeleton.current s (.closureInvoke q id)).map (·.invokes.head?) =
      some (some { thread := q, id := id, hit := false }) := by
  intro s h q id ho
  rw [closureInvoke_logs _ cur_live h, (reach_ci _ cur_closurefreed h).tbl_unowned ho]

/-- a lookup made while the passing call is in flight hits -/
theorem C12_inflight_invocation_hits : ∀ s, Reach Skeleton.current s → ∀ q id c,
    s.owner id = some c → (s.calls c).pc ≠ .returned →
    (step Skeleton.current s (.closureInvoke q id)).map (·.invokes.head?) =
      some (some { thread := q, id := id, hit := true }) := by
  intro s h q id c ho hp
  rw [closureInvoke_logs _ cur_live h, (reach_ci _ cur_closurefreed h).live_tbl id c ho hp]

/-- Closure ids are fresh: the ids a call registers were never registered before (by any call,
    live or returned), so a later call passing the same function cannot resurrect an old id;
    and an id belongs to exactly one call. -/
theorem C12_ids_fresh : ∀ s, Reach Skeleton.current s → ∀ c x numOut n s',
    step Skeleton.current s (.callStart c x numOut n) = some s' →
    ∀ id, id ∈ (s'.calls c).closures →
      s.owner id = none ∧ s.closures id = false ∧ ∀ c', id ∉ (s.calls c').closures := by
  intro s h c x numOut n s' hs id hm
  have hi := reach_ci _ cur_closurefreed h
  cases Step.of_step hs
  have hreg : Skeleton.current.stubFuncArgsRegistered = true := by decide
  have hfresh : Skeleton.current.clIdFresh = true := by decide
  -- the new ids are `range' nextClosure n`, owned ids are `< nextClosure` (`own_lt`): nobody owns a new id, so it is
  -- not in the table and in no call's list
  simp [newClosures, hreg, hfresh, List.mem_range'_1] at hm
  have hown : s.owner id = none :=
    Option.eq_none_iff_forall_ne_some.mpr fun c' ho => by have := hi.own_lt id c' ho; omega
  exact ⟨hown, hi.tbl_unowned hown, fun c' hm' => by simp [hi.mem_own id c' hm'] at hown⟩

/-- What `clIdFresh` protects against, as a behaviour of the model: with ids derived from the table's current size
    (that ONE fact flipped), three calls with overlapping lifetimes collide — X and Y are in flight with ids 0 and 1,
    X returns (the table shrinks to one entry), Z starts and is given id 1 again: Y's and Z's closures share an
    entry. On the current tree Z gets id 2. -/
theorem C12_size_derived_ids_collide :
    (run { Skeleton.current with clIdFresh := false } init
      [.callStart 0 5 2 1, .callReceive 0, .callSpawn 0, .callWrite 0, .waiterRecvCall 0,
       .callStart 1 5 2 1, .callReceive 1, .callSpawn 1, .callWrite 1, .waiterRecvCall 1,
       .ctxCancel 5, .ctxPropagate 0, .waiterGetsCtx 0, .waiterSend 0, .waiterFree 0, .callTakeRes 0 false, .callReturnOk 0,
       .callStart 2 6 2 1]).map
      (fun s => decide ((s.calls 1).closures = [1] ∧ (s.calls 2).closures = [1])) = some true ∧
    (run Skeleton.current init
      [.callStart 0 5 2 1, .callReceive 0, .callSpawn 0, .callWrite 0, .waiterRecvCall 0,
       .callStart 1 5 2 1, .callReceive 1, .callSpawn 1, .callWrite 1, .waiterRecvCall 1,
       .ctxCancel 5, .ctxPropagate 0, .waiterGetsCtx 0, .waiterSend 0, .waiterFree 0, .callTakeRes 0 false, .callReturnOk 0,
       .callStart 2 6 2 1]).map
      (fun s => decide ((s.calls 1).closures = [1] ∧ (s.calls 2).closures = [2])) = some true := by
  constructor <;> decide

theorem C12_one_owner : ∀ s, Reach Skeleton.current s → ∀ id c c',
    id ∈ (s.calls c).closures → id ∈ (s.calls c').closures → c = c' := by
  intro s h id c c' h1 h2
  have hi := reach_ci _ cur_closurefreed h
  have := hi.mem_own id c h1
  rw [hi.mem_own id c' h2] at this
  exact (Option.some.inj this).symm

/-! ### non-vacuity: every exit path, with a late invocation -/

/-- success path: two closures registered, invoked in flight (hit), released on return, late invocation misses -/
example : (run Skeleton.current init
    [.callStart 0 5 2 2, .callReceive 0, .callSpawn 0, .callWrite 0, .closureInvoke 9 1, .waiterRecvCall 0,
     .respFrame 0 0 42 false, .pubLookup 0, .waiterGetsValue 0 0, .waiterSend 0, .waiterFree 0,
     .callTakeRes 0 false, .callReturnOk 0, .closureInvoke 9 1]).map
    (fun s => decide (s.invokes = [⟨9, 1, false⟩, ⟨9, 1, true⟩] ∧ s.closures 0 = false ∧ s.closures 1 = false ∧
                      (s.calls 0).closures = [0, 1])) = some true := rfl

/-- marshal failure of a later argument: the closure registered before it is released by the panic path -/
example : (run Skeleton.current init
    [.callStart 0 5 2 1, .callMarshalFail 0, .callRecover 0 eMarshal, .closureInvoke 9 0]).map
    (fun s => decide (s.invokes = [⟨9, 0, false⟩] ∧ (s.calls 0).pc = .returned ∧ s.owner 0 = some 0)) = some true := rfl

/-- link end while the call waits; a second call gets fresh ids -/
example : (run Skeleton.current init
    [.callStart 0 5 2 1, .callReceive 0, .callSpawn 0, .callWrite 0, .cancelLink, .callLinkCtx 0,
     .callRecover 0 eLinkCtx, .callStart 1 5 2 1]).map
    (fun s => decide (s.closures 0 = false ∧ s.closures 1 = true ∧ (s.calls 1).closures = [1])) = some true := rfl

/-- Registration and look-up never wait for a closure body: in every reachable state — whatever closure
    bodies are running — a new call can register its closures (`callStart` with any number of func
    arguments is enabled for an unused call id) and a peer's `CallClosure` can do its look-up. -/
theorem C12_table_mutex_never_waits_for_a_closure_body : ∀ s, Reach Skeleton.current s →
    (∀ c x numOut n, (s.calls c).pc = .absent → s.setters c = .absent → (numOut = 1 ∨ numOut = 2) →
      (step Skeleton.current s (.callStart c x numOut n)).isSome = true) ∧
    (∀ q id, (step Skeleton.current s (.closureInvoke q id)).isSome = true) :=
  fun _ h => ⟨callStart_enabled _ cur_live h, closureInvoke_enabled _ cur_live h⟩

/-- call 0 passes closure 0 and is in flight; the peer invokes the closure (thread 9): its body is running -/
def closureBodyRunning : List Act :=
  [.callStart 0 5 2 1, .callReceive 0, .callSpawn 0, .callWrite 0, .closureInvoke 9 0]

/-- What the fact `clInvokeOutsideLock` protects against (the closure table and its mutex belong to the
    REGISTRY, not to one call or one link): on the current tree with that ONE fact flipped
    (`CallClosure`: `Lock(); defer Unlock()`), while the body of closure 0 runs the invoking thread holds
    the mutex, and
      * `callStart` of another call that carries a closure is NOT enabled (`registerClosure` waits) —
        whoever issues it: another goroutine of the application, a handler of another link of the same
        registry, or the running body itself, which then never returns (self-deadlock);
      * another `CallClosure` (any id, hit or miss) is not enabled either;
      * a call that carries no closure is unaffected;
    all of them are enabled again once the body has returned.  On the current tree the very same
    `callStart` / `closureInvoke` are enabled while the body runs. -/
theorem C02_lock_held_across_closure_blocks_other_calls :
    (run skLockAcrossClosure init closureBodyRunning).map
      (fun s => decide (s.invokes = [⟨9, 0, true⟩] ∧ s.running 9 = some 0 ∧ s.clLock = some 9 ∧
                        (step skLockAcrossClosure s (.callStart 1 6 2 1)).isSome = false ∧
                        (step skLockAcrossClosure s (.closureInvoke 8 0)).isSome = false ∧
                        (step skLockAcrossClosure s (.closureInvoke 8 7)).isSome = false ∧
                        (step skLockAcrossClosure s (.callStart 1 6 2 0)).isSome = true)) = some true ∧
    (run skLockAcrossClosure init (closureBodyRunning ++ [.closureBodyDone 9])).map
      (fun s => decide (s.clLock = none ∧
                        (step skLockAcrossClosure s (.callStart 1 6 2 1)).isSome = true ∧
                        (step skLockAcrossClosure s (.closureInvoke 8 0)).isSome = true)) = some true ∧
    (run Skeleton.current init closureBodyRunning).map
      (fun s => decide (s.invokes = [⟨9, 0, true⟩] ∧ s.running 9 = some 0 ∧ s.clLock = none ∧
                        (step Skeleton.current s (.callStart 1 6 2 1)).isSome = true ∧
                        (step Skeleton.current s (.closureInvoke 8 0)).isSome = true)) = some true := by
  refine ⟨?_, ?_, ?_⟩ <;> decide

/-- The closure table is touched by exactly the three operations M2 models — `CallClosure`'s lookup,
    `registerClosure`'s insert and its release function's delete — and nowhere else in the package
    (so no teardown, hook or other link can add or drop registrations behind the owning call's back).
    Checked against the regenerated skeleton. -/
theorem C12_table_touched_only_by_owner :
    Skeleton.current.clTableSites = 3 ∧ Skeleton.current.clLookupUnderLock = true ∧
    Skeleton.current.clInsertUnderLock = true ∧ Skeleton.current.clDeleteUnderLock = true := by decide

/-- The registration ends WITH the call: The release function `registerClosure` returns runs DEFERRED on every exit path
    of a closure-carrying call; it only locks, deletes and unlocks — no wait, channel operation or select (checked
    against the regenerated skeleton) — and the lock it takes is not held while a closure body runs. -/
theorem C12_closure_release_never_waits :
    Skeleton.current.clFreeNeverWaits = true ∧ Skeleton.current.clDeleteUnderLock = true := by decide

end Panrpc.Ep

#print axioms Panrpc.Ep.C12_table_is_inflight
#print axioms Panrpc.Ep.C12_table_is_inflight_owner
#print axioms Panrpc.Ep.C12_empty_when_idle
#print axioms Panrpc.Ep.C12_late_invocation_rejected
#print axioms Panrpc.Ep.C12_returned_forever
#print axioms Panrpc.Ep.C12_unknown_invocation_rejected
#print axioms Panrpc.Ep.C12_inflight_invocation_hits
#print axioms Panrpc.Ep.C12_ids_fresh
#print axioms Panrpc.Ep.C12_one_owner
#print axioms Panrpc.Ep.C12_table_touched_only_by_owner
#print axioms Panrpc.Ep.C12_table_mutex_never_waits_for_a_closure_body
#print axioms Panrpc.Ep.C02_lock_held_across_closure_blocks_other_calls
#print axioms Panrpc.Ep.C12_closure_release_never_waits
#print axioms Panrpc.Ep.C12_size_derived_ids_collide
