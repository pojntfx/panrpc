/-
  Props/C13.lean — "With any number of links on one registry, the identifier a handler reads
  from its context is the one under which that link's remote is enumerated and was announced on
  connect, and a call made through a given remote is delivered only to that link's peer, its
  response returning only to that caller.  The failure or cancellation of one link leaves calls
  in flight on every other link unaffected."

  Model: M4 (Model/Registry.lean): one registry, any number of links, every interleaving.
  All theorems are about `Skeleton.current`.  Ghost histories: `s.invocations` (a handler was
  entered on `link`, `GetRemoteID(ctx)` yields `rid` there), `s.written` (a call through the
  remote of link `via` wrote its request with the writer of link `writer` and waits in pending-call
  table `table`), `s.delivered` (a response read by the response loop of link `reader` completed a
  call made through the remote of link `caller`).  Within one link, which call a response goes to
  is C01 (M2).
-/
import Panrpc.Lemmas.RegistryCurrent

namespace Panrpc.Rg

/-- Every handler invocation on link `v.link` reads an id `i` from its context that is: the
    `remoteID` of that link; the argument of that link's registry-wide and own connect events;
    the ONLY key under which that link's remote is ever enumerated, and the key under which it IS
    enumerated until its disconnect event; and the id of no other link. -/
theorem C13_identity_consistent : ∀ s, Reach Skeleton.current s →
    ∀ v, v ∈ s.invocations →
    ∃ i, v.rid = some i ∧ (s.links v.link).id = some i ∧
      ⟨.regConnect, v.link, i⟩ ∈ s.hookLog ∧ ⟨.linkConnect, v.link, i⟩ ∈ s.hookLog ∧
      (∀ j, s.remotes j = some v.link → j = i) ∧
      (⟨.regDisconnect, v.link, i⟩ ∉ s.hookLog → s.remotes i = some v.link) ∧
      (∀ l', (s.links l').id = some i → l' = v.link) :=
  identity_consistent cur_facts

/-- distinct links have distinct ids (`C13_ids_distinct` of the design) -/
theorem C13_ids_distinct : ∀ s, Reach Skeleton.current s →
    ∀ l l' i, (s.links l).id = some i → (s.links l').id = some i → l = l' :=
  fun _ hr => (reach_inv cur_facts hr).id_inj

/-- A call through the remote of link `l` writes its request only with `l`'s writer and waits
    only in `l`'s own pending-call table; a response read on link `l` only ever completes a call
    that was made through `l`'s remote. -/
theorem C13_routing : ∀ s, Reach Skeleton.current s →
    (∀ w, w ∈ s.written → w.writer = w.via ∧ w.table = some w.via) ∧
    (∀ d, d ∈ s.delivered → d.caller = d.reader) :=
  routing cur_facts

/-- Frame lemma.  For `l' ≠ l`, EVERY action `a` of link `l` — fatal errors, cancellation, failing
    reads, bad frames, teardown included —
    (1) leaves `l'`'s component unchanged (its pcs, its id, its calls in flight, its pending-call
        table and fatal slot, its handler backlog);
    (2) leaves every table entry owned by `l'` unchanged;
    (3) changes neither the enabledness nor the effect on `l'`'s component of any action `b` of
        `l'` (`Option.map` equality: `none` = not enabled) — except that when both are the
        registration step, `l'` draws a different fresh id;
    (4) in that one case too, enabledness and the effect up to the id are unchanged. -/
theorem C13_isolation : ∀ s, Reach Skeleton.current s →
    ∀ (l l' : Nat) (a : Op) (s1 : State), l' ≠ l → step Skeleton.current s ⟨l, a⟩ = some s1 →
    s1.links l' = s.links l' ∧
    (∀ i, s1.remotes i = some l' ↔ s.remotes i = some l') ∧
    (∀ b, ¬(a = .setupRegister ∧ b = .setupRegister) →
      (step Skeleton.current s1 ⟨l', b⟩).map (fun t => t.links l') =
      (step Skeleton.current s ⟨l', b⟩).map (fun t => t.links l')) ∧
    (∀ b, (step Skeleton.current s1 ⟨l', b⟩).map (fun t => (t.links l').eraseId) =
          (step Skeleton.current s ⟨l', b⟩).map (fun t => (t.links l').eraseId)) :=
  isolation cur_facts

/-- The commuting-square form: whatever `l'` could do before `l`'s action it can do after it, with
    the same effect on its own component and on the table entries it owns. -/
theorem C13_isolation_commute : ∀ s, Reach Skeleton.current s →
    ∀ (l l' : Nat) (a b : Op) (s1 s2 : State), l' ≠ l →
    ¬(a = .setupRegister ∧ b = .setupRegister) →
    step Skeleton.current s ⟨l, a⟩ = some s1 → step Skeleton.current s ⟨l', b⟩ = some s2 →
    ∃ s12, step Skeleton.current s1 ⟨l', b⟩ = some s12 ∧ s12.links l' = s2.links l' ∧
      ∀ i, s12.remotes i = some l' ↔ s2.remotes i = some l' :=
  isolation_commute cur_facts

/-- A whole run of other links' actions leaves `l'`'s component — in particular the number of its
    calls in flight, its pending-call table (`closed`) and its fatal slot (`ended`) — and the table
    entries it owns unchanged. -/
theorem C13_isolation_run : ∀ (l' : Nat) (acts : List Act) (s s' : State),
    Reach Skeleton.current s → (∀ a, a ∈ acts → a.link ≠ l') → run Skeleton.current s acts = some s' →
    s'.links l' = s.links l' ∧ ∀ i, s'.remotes i = some l' ↔ s.remotes i = some l' :=
  isolation_run cur_facts

/-! ### non-vacuity -/

/-- two links with calls in flight and handlers entered on both; link 0 fails (fault, cancel,
    failing reads, full teardown): link 1 keeps its two calls in flight, is neither closed nor
    ended, stays enumerated under its id; every record is link-pure -/
example : (run Skeleton.current init
    [⟨0, .linkStart⟩, ⟨1, .linkStart⟩, ⟨0, .setupRegister⟩, ⟨1, .setupRegister⟩, ⟨0, .loopsStart⟩,
     ⟨1, .loopsStart⟩, ⟨0, .callOn⟩, ⟨1, .callOn⟩, ⟨1, .callOn⟩, ⟨0, .reqRead⟩, ⟨1, .reqRead⟩,
     ⟨1, .reqHandle⟩, ⟨0, .faultOn⟩, ⟨0, .cancel⟩, ⟨0, .ctxWatch⟩, ⟨0, .failReads⟩, ⟨0, .reqHandle⟩,
     ⟨0, .reqReadFails⟩, ⟨0, .respReadFails⟩, ⟨0, .setupLoopsDone⟩, ⟨0, .setupUnregister⟩,
     ⟨0, .callOn⟩]).map
    (fun s => decide ((s.links 1).inflight = 2 ∧ (s.links 1).closed = false ∧
      (s.links 1).ended = false ∧ (s.links 0).inflight = 0 ∧ (s.links 0).closed = true ∧
      s.remotes 1 = some 1 ∧ s.remotes 0 = none ∧
      s.invocations = [⟨0, some 0⟩, ⟨1, some 1⟩] ∧
      s.written = [⟨1, 1, some 1⟩, ⟨1, 1, some 1⟩, ⟨0, 0, some 0⟩])) = some true := rfl

/-- a response on link 1 completes a call of link 1; one addressed to a call of link 0 is refused -/
example : (run Skeleton.current init
    [⟨0, .linkStart⟩, ⟨1, .linkStart⟩, ⟨0, .setupRegister⟩, ⟨1, .setupRegister⟩, ⟨0, .loopsStart⟩,
     ⟨1, .loopsStart⟩, ⟨0, .callOn⟩, ⟨1, .callOn⟩, ⟨1, .respRead (some 1)⟩]).map
    (fun s => decide (s.delivered = [⟨1, 1⟩] ∧ (s.links 0).inflight = 1 ∧
      (step Skeleton.current s ⟨1, .respRead (some 0)⟩).isNone = true)) = some true := rfl

/-- the excepted case of `C13_isolation` (3) is real: both links at their registration step -/
example : (run Skeleton.current init [⟨0, .linkStart⟩, ⟨1, .linkStart⟩]).map
    (fun s => decide (
      ((step Skeleton.current s ⟨1, .setupRegister⟩).map fun t => (t.links 1).id) = some (some 0) ∧
      ((run Skeleton.current s [⟨0, .setupRegister⟩, ⟨1, .setupRegister⟩]).map fun t => (t.links 1).id)
        = some (some 1))) = some true := rfl

/-- M4's per-link components (writer, pending-call table, error slot) are exactly what a call made for a
    link uses.  For the closure invocations a handler makes that holds because the `CallClosure` stub is
    built per invocation from the parameters of the link whose request is being served (checked against
    the regenerated skeleton) — a stub cached in registry-wide state would route every later link's closure
    invocations to the first link's peer, and let that link's failure fail them. -/
theorem C13_closure_invocations_use_their_own_link : Skeleton.current.pxClosureIdPerInvocation = true := by decide

/-- Invocations stay with the call (and link) that passed the closure: every registration gets an entry and an id of its
    own — no sharing by function identity (`reflect.Value.Pointer()` is the CODE pointer: equal for all closures of one
    literal) — and the manager has no state beyond its table (checked against the regenerated skeleton). -/
theorem C13_closures_of_different_calls_are_different_entries :
    Skeleton.current.clIdFresh = true ∧ Skeleton.current.clStoresCreatedClosure = true := by decide

end Panrpc.Rg

#print axioms Panrpc.Rg.C13_closure_invocations_use_their_own_link

#print axioms Panrpc.Rg.C13_identity_consistent
#print axioms Panrpc.Rg.C13_ids_distinct
#print axioms Panrpc.Rg.C13_routing
#print axioms Panrpc.Rg.C13_isolation
#print axioms Panrpc.Rg.C13_isolation_commute
#print axioms Panrpc.Rg.C13_isolation_run
#print axioms Panrpc.Rg.C13_closures_of_different_calls_are_different_entries
