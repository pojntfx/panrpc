/-
  Props/C14.lean — "Each link produces exactly one connect notification carrying a fresh
  identifier before any of its requests is handled, and - once the link has ended and its
  transport reads have returned - exactly one disconnect notification with the same identifier;
  this applies to the registry-wide hooks and to the hooks supplied for the individual link.
  At every instant the set of remotes enumerated equals the set of links announced as connected
  and not yet as disconnected."

  Model: M4 (Model/Registry.lean): one registry, any number of concurrent and repeated links,
  every interleaving of their atomic steps, every termination cause (read error, bad frame,
  cancelled context, any other fatal error), peers that keep sending after termination.
  The property theorems are about `Skeleton.current` (the witness theorems say in their statements which other
  skeleton they are about), i.e. the facts regenerated from /repo on this run.

  Vocabulary: `s.hookLog` is the ghost log of hook calls (newest first); `evs log k l` its
  sub-list of kind `k` for link `l`; `expect k l o` is `[⟨k,l,i⟩]` if `o = some i`, else `[]`;
  `s.remotes i = some l` says that `ForRemotes` (one `remotesLock` region,
  `rgForRemotesUnderLock`) enumerates id `i`, and that the value it yields is link `l`'s remote.
-/
import Panrpc.Lemmas.RegistryCurrent
import Panrpc.Pinned

namespace Panrpc.Rg

/-- In EVERY reachable state — also between the steps of a registration or removal running
    concurrently with the observer — id `i` is enumerated (as link `l`'s remote) iff the connect
    hook was called for it and the disconnect hook was not; for the registry-wide hooks and for
    the link's own hooks. -/
theorem C14_enumeration_eq_live : ∀ s, Reach Skeleton.current s → ∀ i l,
    (s.remotes i = some l ↔
      (⟨.regConnect, l, i⟩ ∈ s.hookLog ∧ ⟨.regDisconnect, l, i⟩ ∉ s.hookLog)) ∧
    (s.remotes i = some l ↔
      (⟨.linkConnect, l, i⟩ ∈ s.hookLog ∧ ⟨.linkDisconnect, l, i⟩ ∉ s.hookLog)) :=
  enumeration_eq_live_reach cur_facts

/-- Per link: the registry-connect events are exactly `[]` before the registration region and
    exactly the one event carrying the link's id afterwards (hence at most one ever, exactly one
    once registered); the same for the link's own connect hook; and whenever the request loop
    has been started, a request is waiting for its handler, or a handler was ever entered, both
    connect events are already in the log. -/
theorem C14_connect_once_first : ∀ s, Reach Skeleton.current s → ∀ l,
    evs s.hookLog .regConnect l = expect .regConnect l (s.links l).id ∧
    evs s.hookLog .linkConnect l = expect .linkConnect l (s.links l).id ∧
    (evs s.hookLog .regConnect l).length ≤ 1 ∧ (evs s.hookLog .linkConnect l).length ≤ 1 ∧
    (∀ i, ⟨.regConnect, l, i⟩ ∈ s.hookLog ↔ ⟨.linkConnect, l, i⟩ ∈ s.hookLog) ∧
    (((s.links l).reqLoop ≠ .notStarted ∨ 0 < (s.links l).pendingReq ∨
        (s.invocations.any fun v => decide (v.link = l)) = true) →
      ∃ i, (s.links l).id = some i ∧ ⟨.regConnect, l, i⟩ ∈ s.hookLog ∧
        ⟨.linkConnect, l, i⟩ ∈ s.hookLog) :=
  connect_once_first cur_facts

/-- The steps that read a request or enter a handler are enabled only in states whose log
    already holds both connect events of that link (events are never removed: the connect
    notification precedes every request of the link in time). -/
theorem C14_connect_before_requests : ∀ s, Reach Skeleton.current s → ∀ l s',
    (step Skeleton.current s ⟨l, .reqRead⟩ = some s' ∨ step Skeleton.current s ⟨l, .reqHandle⟩ = some s') →
    ∃ i, (s.links l).id = some i ∧ ⟨.regConnect, l, i⟩ ∈ s.hookLog ∧ ⟨.linkConnect, l, i⟩ ∈ s.hookLog :=
  connect_before_requests cur_facts

/-- Hook events are only ever appended: along every run the log of the earlier state is a suffix
    of the log of the later one (newest first), so membership in the log is "happened before". -/
theorem C14_log_append_only : ∀ (acts : List Act) (s s' : State),
    run Skeleton.current s acts = some s' → s.hookLog <:+ s'.hookLog :=
  hookLog_suffix_run cur_facts

/-- Per link: the disconnect events (registry-wide and the link's own) are exactly `[]` until the
    setup goroutine has exited and exactly the one event with the link's id afterwards; a
    disconnect event in the log implies that both loops have exited and that the connect event
    with the SAME id is in the log. -/
theorem C14_disconnect_once_after_loops : ∀ s, Reach Skeleton.current s → ∀ l,
    evs s.hookLog .regDisconnect l = expect .regDisconnect l (s.links l).discId ∧
    evs s.hookLog .linkDisconnect l = expect .linkDisconnect l (s.links l).discId ∧
    (evs s.hookLog .regDisconnect l).length ≤ 1 ∧ (evs s.hookLog .linkDisconnect l).length ≤ 1 ∧
    (∀ i, ⟨.regDisconnect, l, i⟩ ∈ s.hookLog ↔ ⟨.linkDisconnect, l, i⟩ ∈ s.hookLog) ∧
    (∀ i, ⟨.regDisconnect, l, i⟩ ∈ s.hookLog →
      (s.links l).reqLoop = .exited ∧ (s.links l).respLoop = .exited ∧
      ⟨.regConnect, l, i⟩ ∈ s.hookLog ∧ ⟨.linkConnect, l, i⟩ ∈ s.hookLog) :=
  disconnect_once_after_loops cur_facts

/-- The removal step is enabled only after `wg.Wait()` returned, i.e. when both loops have
    exited, and it is the step that appends both disconnect events (one atomic step: removal and
    notifications cannot be observed apart). -/
theorem C14_disconnect_step : ∀ s, Reach Skeleton.current s → ∀ l s',
    step Skeleton.current s ⟨l, .setupUnregister⟩ = some s' →
    (s.links l).reqLoop = .exited ∧ (s.links l).respLoop = .exited ∧
    ∃ i, (s.links l).id = some i ∧ s.remotes i = some l ∧ s'.remotes i = none ∧
      s'.hookLog = ⟨.linkDisconnect, l, i⟩ :: ⟨.regDisconnect, l, i⟩ :: s.hookLog :=
  disconnect_step cur_facts

/-- The events delivered to the hooks of link `l`'s own `Link*` call are exactly the events
    delivered to the registry-wide hooks for `l`, in the same order. -/
theorem C14_link_hooks_mirror_registry_hooks : ∀ s, Reach Skeleton.current s → ∀ l,
    (linkEvs s.hookLog l).map HookEv.toReg = regEvs s.hookLog l :=
  fun _ hr => (reach_ghost cur_facts hr).mirror

/-- Identifiers are fresh: distinct links have distinct ids, and the id a registration draws was
    never enumerated, never announced and belongs to no other link. -/
theorem C14_ids_fresh : ∀ s, Reach Skeleton.current s →
    (∀ l l' i, (s.links l).id = some i → (s.links l').id = some i → l = l') ∧
    (∀ l s', step Skeleton.current s ⟨l, .setupRegister⟩ = some s' →
      (s'.links l).id = some s.nextId ∧ s.remotes s.nextId = none ∧
      (∀ e, e ∈ s.hookLog → e.id ≠ s.nextId) ∧ (∀ l', (s.links l').id ≠ some s.nextId)) :=
  ids_fresh cur_facts

/-- From every reachable state in which link `l` has been started and not yet torn down, once
    the application has made its transport reads fail (and cancelled its context), the explicit
    run `teardownRun` — only own steps of `l`: [register, start loops,] the failing read of each
    loop that has not exited, `wg.Wait()` returning, the deferred removal — succeeds and ends
    with all three goroutines exited, `l` no longer enumerated and both disconnect events
    logged.  No step of another link, of the peer or of user code is needed; at most 5 steps
    from a registered link (6 from a link that has not reached its registration yet). -/
theorem C14_disconnect_reachable : ∀ s, Reach Skeleton.current s → ∀ l,
    (s.links l).ctxCancelled = true → (s.links l).readsFail = true →
    ((s.links l).setup = .started ∨ (s.links l).setup = .registered ∨
      (s.links l).setup = .waiting ∨ (s.links l).setup = .loopsDone) →
    (∀ a, a ∈ teardownRun (s.links l) l → a.link = l) ∧
    (teardownRun (s.links l) l).length ≤ 6 ∧
    ((s.links l).setup ≠ .started → (teardownRun (s.links l) l).length ≤ 5) ∧
    ∃ s', run Skeleton.current s (teardownRun (s.links l) l) = some s' ∧
      (s'.links l).setup = .unregistered ∧ (s'.links l).reqLoop = .exited ∧
      (s'.links l).respLoop = .exited ∧ (∀ i, s'.remotes i ≠ some l) ∧
      ∃ i, (s'.links l).id = some i ∧ ⟨.regDisconnect, l, i⟩ ∈ s'.hookLog ∧
        ⟨.linkDisconnect, l, i⟩ ∈ s'.hookLog :=
  fun s hr l _ => disconnect_reachable cur_facts s hr l

/-- …in particular from every state in which `l` is enumerated. -/
theorem C14_disconnect_reachable_enumerated : ∀ s, Reach Skeleton.current s → ∀ l i,
    s.remotes i = some l → (s.links l).ctxCancelled = true → (s.links l).readsFail = true →
    (teardownRun (s.links l) l).length ≤ 5 ∧
    ∃ s', run Skeleton.current s (teardownRun (s.links l) l) = some s' ∧
      (∀ j, s'.remotes j ≠ some l) ∧ ⟨.regDisconnect, l, i⟩ ∈ s'.hookLog ∧
      ⟨.linkDisconnect, l, i⟩ ∈ s'.hookLog :=
  fun s hr l i hrm _ => disconnect_reachable_enumerated cur_facts s hr l i hrm

/-! ### non-vacuity -/

/-- two links, interleaved: link 0 is torn down after a read failure while link 1 stays up; the
    log holds connect+disconnect of link 0 and the connect of link 1; only link 1 is enumerated -/
example : (run Skeleton.current init
    [⟨0, .linkStart⟩, ⟨1, .linkStart⟩, ⟨1, .setupRegister⟩, ⟨0, .setupRegister⟩, ⟨0, .loopsStart⟩,
     ⟨1, .loopsStart⟩, ⟨0, .reqRead⟩, ⟨1, .reqRead⟩, ⟨0, .reqHandle⟩, ⟨0, .failReads⟩,
     ⟨0, .reqReadFails⟩, ⟨1, .reqHandle⟩, ⟨0, .respReadFails⟩, ⟨0, .setupLoopsDone⟩,
     ⟨0, .setupUnregister⟩]).map
    (fun s => decide (s.remotes 0 = some 1 ∧ s.remotes 1 = none ∧
      s.hookLog = [⟨.linkDisconnect, 0, 1⟩, ⟨.regDisconnect, 0, 1⟩, ⟨.linkConnect, 0, 1⟩,
                   ⟨.regConnect, 0, 1⟩, ⟨.linkConnect, 1, 0⟩, ⟨.regConnect, 1, 0⟩] ∧
      s.invocations = [⟨1, some 0⟩, ⟨0, some 1⟩] ∧
      (s.links 0).setup = .unregistered ∧ (s.links 1).setup = .waiting)) = some true := rfl

/-- the hypotheses of `C14_disconnect_reachable` are met by a reachable state, and the run it
    gives is the expected one -/
example : (run Skeleton.current init
    [⟨0, .linkStart⟩, ⟨0, .setupRegister⟩, ⟨0, .loopsStart⟩, ⟨0, .cancel⟩, ⟨0, .failReads⟩,
     ⟨0, .respReadFails⟩]).map
    (fun s => decide ((s.links 0).ctxCancelled = true ∧ (s.links 0).readsFail = true ∧
      (s.links 0).setup = .waiting ∧
      teardownRun (s.links 0) 0 = [⟨0, .reqReadFails⟩, ⟨0, .setupLoopsDone⟩, ⟨0, .setupUnregister⟩])) =
    some true := rfl

/-- the removal is refused while a loop is still reading -/
example : (run Skeleton.current init
    [⟨0, .linkStart⟩, ⟨0, .setupRegister⟩, ⟨0, .loopsStart⟩, ⟨0, .faultOn⟩, ⟨0, .setupLoopsDone⟩]).isNone
    = true := rfl

/-- the atomicity facts are necessary: if the connect hooks were called outside the insert's
    `remotesLock` region (`rgRegisterAtomic = false`), an observer between the two steps sees id 0
    enumerated while no connect event has been logged; likewise for the removal -/
example : (run { Skeleton.current with rgRegisterAtomic := false } init
    [⟨0, .linkStart⟩, ⟨0, .setupRegister⟩]).map
    (fun s => decide (s.remotes 0 = some 0 ∧ s.hookLog = [] ∧ (s.links 0).setup = .inserted)) =
    some true := rfl

example : (run { Skeleton.current with rgUnregisterAtomic := false } init
    [⟨0, .linkStart⟩, ⟨0, .setupRegister⟩, ⟨0, .loopsStart⟩, ⟨0, .failReads⟩, ⟨0, .reqReadFails⟩,
     ⟨0, .respReadFails⟩, ⟨0, .setupLoopsDone⟩, ⟨0, .setupUnregister⟩]).map
    (fun s => decide (s.remotes 0 = none ∧
      s.hookLog = [⟨.linkConnect, 0, 0⟩, ⟨.regConnect, 0, 0⟩] ∧ (s.links 0).setup = .deleted)) =
    some true := rfl

/-- …and so is the order "register, then start the loops": with `rgRegisterBeforeLoops = false` a
    handler can be entered before any connect event, reading no id -/
example : (run { Skeleton.current with rgRegisterBeforeLoops := false } init
    [⟨0, .linkStart⟩, ⟨0, .loopsStart⟩, ⟨0, .reqRead⟩, ⟨0, .reqHandle⟩]).map
    (fun s => decide (s.invocations = [⟨0, none⟩] ∧ s.hookLog = [])) = some true := rfl

/-! ### the pinned tree violates the property (F4): the hooks passed to `Link*` are never called -/

/-- A full life cycle of one link on the pinned tree: the registry-wide hooks fire, the log holds
    no `linkConnect` / `linkDisconnect` event at all. -/
theorem C14_link_hooks_missing_on_pinned : ∃ acts, (run Skeleton.pinned init acts).map
    (fun s => decide ((s.links 0).setup = .unregistered ∧
      s.hookLog = [⟨.regDisconnect, 0, 0⟩, ⟨.regConnect, 0, 0⟩] ∧
      linkEvs s.hookLog 0 = [] ∧ regEvs s.hookLog 0 ≠ [])) = some true :=
  ⟨[⟨0, .linkStart⟩, ⟨0, .setupRegister⟩, ⟨0, .loopsStart⟩, ⟨0, .reqRead⟩, ⟨0, .reqHandle⟩,
    ⟨0, .cancel⟩, ⟨0, .failReads⟩, ⟨0, .reqReadFails⟩, ⟨0, .respReadFails⟩, ⟨0, .setupLoopsDone⟩,
    ⟨0, .setupUnregister⟩], rfl⟩

/-- M4 draws a fresh identifier for every link. In the source the identifier is assigned once, from a UUID, by one of
    the setup goroutine's own statements — never taken from the link's context (checked against the regenerated
    skeleton): a link opened from inside a handler of another link does not take over that link's identifier. The
    library only reads the hook structs it is handed. -/
theorem C14_identifier_has_one_fresh_source :
    Skeleton.current.rgPerLinkRemoteId = true ∧ Skeleton.current.hooksNeverWritten = true := by decide

end Panrpc.Rg

#print axioms Panrpc.Rg.C14_enumeration_eq_live
#print axioms Panrpc.Rg.C14_connect_once_first
#print axioms Panrpc.Rg.C14_connect_before_requests
#print axioms Panrpc.Rg.C14_log_append_only
#print axioms Panrpc.Rg.C14_disconnect_once_after_loops
#print axioms Panrpc.Rg.C14_disconnect_step
#print axioms Panrpc.Rg.C14_link_hooks_mirror_registry_hooks
#print axioms Panrpc.Rg.C14_ids_fresh
#print axioms Panrpc.Rg.C14_disconnect_reachable
#print axioms Panrpc.Rg.C14_disconnect_reachable_enumerated
#print axioms Panrpc.Rg.C14_link_hooks_missing_on_pinned
#print axioms Panrpc.Rg.C14_identifier_has_one_fresh_source
