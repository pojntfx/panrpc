/-
  Props/C15.lean — "A finished link leaves nothing behind" (the part M2 carries: the per-call
  waiter goroutines and the pending-call table; closure registrations are C12's
  `C12_empty_when_idle`; loops, decoder and enumeration belong to the registry model).

  A link has ended once some `setErr` closed the pending-call table (`bc.closed`).  The waiter
  goroutine of a call hands its response over the channel `res`; the call thread may have left
  through `<-linkCtx.Done()` or a write failure and never receive it.
-/
import Panrpc.Lemmas.EndpointCurrent
import Panrpc.Pinned

namespace Panrpc.Ep

/-- A waiter that holds a response can always get rid of it and exit, whether or not the call
    thread still listens: `waiterSend` is enabled (`res` is buffered and still empty), then the
    deferred `Free` — two own steps, and its table entry is gone. -/
theorem C15_waiter_can_always_exit : ∀ s, Reach Skeleton.current s → ∀ c r, s.waiters c = .have r →
    ∃ s', run Skeleton.current s [.waiterSend c, .waiterFree c] = some s' ∧
      s'.waiters c = .exited ∧ s'.bc.table c = none := by
  intro s h c r hw
  obtain ⟨s', h1, h2, h3, _⟩ := exit_from_have _ cur_live h c r hw
  exact ⟨s', h1, h2, h3⟩

/-- Every waiter goroutine of an ended link reaches `exited` by at most four steps of its own
    (enter the receive function, be woken by the close, send, free) — no step of the call thread,
    the peer or user code is needed. -/
theorem C15_waiters_exit_after_end : ∀ s, Reach Skeleton.current s → s.bc.closed = true →
    ∀ c, s.waiters c ≠ .absent →
    (waiterExitActs (s.waiters c) c).length ≤ 4 ∧
    ∃ s', run Skeleton.current s (waiterExitActs (s.waiters c) c) = some s' ∧
      s'.waiters c = .exited ∧ s'.bc.table c = none := by
  intro s h hcl c hw
  obtain ⟨s', h1, h2, h3, _⟩ := waiter_exits _ cur_live h c ((reach_wk _ cur_hyg cur_wakes h).closed_empty hcl c) hw
  exact ⟨waiterExitActs_length _ _, s', h1, h2, h3⟩

/-- No pending-call entry survives the end of the link… -/
theorem C15_no_pending_entries : ∀ s, Reach Skeleton.current s → s.bc.closed = true →
    ∀ k, s.bc.table k = none :=
  fun _ h hcl => (reach_wk _ cur_hyg cur_wakes h).closed_empty hcl

/-- …and, ended or not, every entry in the table belongs to a call whose waiter has not exited:
    once all waiters have exited (and no call stands between `Receive` and the spawn of its
    waiter) the table is empty. -/
theorem C15_entry_has_live_waiter : ∀ s, Reach Skeleton.current s → ∀ k g, s.bc.table k = some g →
    s.waiters k ≠ .exited ∧ (s.calls k).pc ≠ .absent ∧ (s.calls k).pc ≠ .marshalled :=
  fun _ h k => (reach_ti _ cur_live.wfrees cur_hyg cur_nochanclose h k).tbl_wait

theorem C15_all_exited_table_empty : ∀ s, Reach Skeleton.current s →
    (∀ c, s.waiters c = .exited ∨ (s.calls c).pc = .absent ∨ (s.calls c).pc = .marshalled) →
    ∀ k, s.bc.table k = none := by
  intro s h hall k
  refine Option.eq_none_iff_forall_ne_some.mpr fun g ht => ?_
  obtain ⟨a, b, c⟩ := C15_entry_has_live_waiter s h k g ht
  rcases hall k with h1 | h1 | h1
  · exact a h1
  · exact b h1
  · exact c h1

/-! ### non-vacuity -/

/-- the call left through the link context; its waiter is woken by the close, sends into the
    buffer nobody reads, frees and exits -/
example : (run Skeleton.current init
    [.callStart 0 5 2 0, .callReceive 0, .callSpawn 0, .callWrite 0, .waiterRecvCall 0,
     .cancelLink, .callLinkCtx 0, .callRecover 0 eLinkCtx, .setErrStore 0, .setErrClose 0,
     .waiterGetsDone 0, .waiterSend 0, .waiterFree 0]).map
    (fun s => decide ((s.calls 0).pc = .returned ∧ s.waiters 0 = .exited ∧ s.bc.closed = true ∧
                      s.res 0 = [⟨none, .closed⟩])) = some true := rfl

/-! ### the pinned tree violates the property (F5): `res` was unbuffered -/

/-- same schedule on the pinned tree: the waiter holds its response, the call thread is gone, and
    the send is not enabled -/
theorem C15_waiter_stranded_on_pinned : ∃ acts, (run Skeleton.pinned init acts).map
    (fun s => decide ((s.calls 0).pc = .returned ∧ s.waiters 0 = .have ⟨none, .closed⟩) &&
              (step Skeleton.pinned s (.waiterSend 0)).isNone) = some true :=
  ⟨[.callStart 0 5 2 0, .callReceive 0, .callSpawn 0, .callWrite 0, .waiterRecvCall 0,
    .cancelLink, .callLinkCtx 0, .callRecover 0 eLinkCtx, .setErrClose 0, .setErrStore 0,
    .waiterGetsDone 0], rfl⟩

/-- …and never will be: no step of any thread changes that state of the pair (call returned,
    waiter holding a response), so the goroutine and everything it references are leaked. -/
theorem C15_stranded_forever_on_pinned : ∀ s s' a, step Skeleton.pinned s a = some s' → ∀ c r,
    (s.calls c).pc = .returned → s.waiters c = .have r →
    (s'.calls c).pc = .returned ∧ s'.waiters c = .have r :=
  fun _ _ => stranded_forever _ (by decide)

/-- No goroutine stays parked in a release after the link ended: The release function `registerClosure` returns runs
    DEFERRED on every exit path of a closure-carrying call; it only locks, deletes and unlocks — no wait, channel
    operation or select (checked against the regenerated skeleton) — and the lock it takes is not held while a closure
    body runs. -/
theorem C15_closure_release_never_waits :
    Skeleton.current.clFreeNeverWaits = true ∧ Skeleton.current.clInvokeOutsideLock = true := by decide

end Panrpc.Ep

#print axioms Panrpc.Ep.C15_waiter_can_always_exit
#print axioms Panrpc.Ep.C15_waiters_exit_after_end
#print axioms Panrpc.Ep.C15_no_pending_entries
#print axioms Panrpc.Ep.C15_entry_has_live_waiter
#print axioms Panrpc.Ep.C15_all_exited_table_empty
#print axioms Panrpc.Ep.C15_waiter_stranded_on_pinned
#print axioms Panrpc.Ep.C15_stranded_forever_on_pinned
#print axioms Panrpc.Ep.C15_closure_release_never_waits
