/-
  Props/C15Reg.lean — the registry part of C15: "After a link has ended and the application has
  cancelled its context and made its transport reads fail, panrpc retains nothing for it: … the
  remote is no longer enumerated", and the setup goroutine and both loops can exit.
  (The pending-call table, closure table and per-call goroutines are in Props/C15.lean.)

  Model: M4 (Model/Registry.lean).  All theorems are about `Skeleton.current`.
-/
import Panrpc.Lemmas.RegistryCurrent

namespace Panrpc.Rg

/-- Once the setup goroutine of link `l` has exited, no table entry is owned by `l` — in that
    state and in every state of every continuation (whatever any link, peer or user code does). -/
theorem C15_not_enumerated_after_teardown : ∀ s, Reach Skeleton.current s → ∀ l,
    (s.links l).setup = .unregistered →
    ∀ acts s', run Skeleton.current s acts = some s' →
      (s'.links l).setup = .unregistered ∧ ∀ i, s'.remotes i ≠ some l :=
  not_enumerated_after_teardown cur_facts

/-- From every reachable state of a started link whose context is cancelled and whose transport
    reads fail — whatever ended it, whatever is in flight, whatever the peer keeps sending — the
    explicit run `exitRun` of at most 6 own steps of `l` succeeds and ends with the setup goroutine
    and both loops exited and `l` not enumerated.  No step of another link, of the peer or of user
    code is needed: none of the three goroutines is stuck. -/
theorem C15_setup_and_loops_exit : ∀ s, Reach Skeleton.current s → ∀ l,
    (s.links l).setup ≠ .absent → (s.links l).ctxCancelled = true → (s.links l).readsFail = true →
    (∀ a, a ∈ exitRun (s.links l) l → a.link = l) ∧ (exitRun (s.links l) l).length ≤ 6 ∧
    ∃ s', run Skeleton.current s (exitRun (s.links l) l) = some s' ∧
      (s'.links l).setup = .unregistered ∧ (s'.links l).reqLoop = .exited ∧
      (s'.links l).respLoop = .exited ∧ ∀ i, s'.remotes i ≠ some l :=
  fun s hr l hna _ => setup_and_loops_exit cur_facts s hr l hna

/-! ### non-vacuity -/

/-- a link ended by a fault with a request still waiting for its handler and a call in flight,
    then cancelled and its reads failed: `exitRun` is the 4-step teardown; after it a late handler
    can still be entered (it reads the same id) and the link stays out of the table -/
example : (run Skeleton.current init
    [⟨0, .linkStart⟩, ⟨0, .setupRegister⟩, ⟨0, .loopsStart⟩, ⟨0, .callOn⟩, ⟨0, .reqRead⟩,
     ⟨0, .faultOn⟩, ⟨0, .cancel⟩, ⟨0, .failReads⟩]).map
    (fun s => decide ((s.links 0).ended = true ∧ (s.links 0).ctxCancelled = true ∧
      (s.links 0).readsFail = true ∧ s.remotes 0 = some 0 ∧
      exitRun (s.links 0) 0 = [⟨0, .reqReadFails⟩, ⟨0, .respReadFails⟩, ⟨0, .setupLoopsDone⟩,
                               ⟨0, .setupUnregister⟩] ∧
      ((run Skeleton.current s (exitRun (s.links 0) 0 ++ [⟨0, .reqHandle⟩, ⟨1, .linkStart⟩,
          ⟨1, .setupRegister⟩])).map
        fun t => decide (t.remotes 0 = none ∧ t.remotes 1 = some 1 ∧
          t.invocations = [⟨0, some 0⟩] ∧ (t.links 0).setup = .unregistered)) = some true)) =
    some true := rfl

end Panrpc.Rg

#print axioms Panrpc.Rg.C15_not_enumerated_after_teardown
#print axioms Panrpc.Rg.C15_setup_and_loops_exit
