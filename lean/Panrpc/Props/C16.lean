/-
  Props/C16.lean — "Link blocks while healthy and returns the first fatal error when it ends".

  Model: M2 (Model/Endpoint.lean).  `fatalLog` is the ghost sequence of the arguments of
  `setErr`'s store critical sections, in the order in which they ran; "the link is healthy" =
  `fatalLog = []` (no thread has reported a fatal error yet).  Every thread of the link that can
  report one (loops, handlers, the remote-definition walk, the ctx watcher, recovering stubs) is a
  setter thread of the model; which error each one carries is arbitrary (`setErrEnter t e`).
  The property theorems are about `Skeleton.current` (the witness theorems say in their statements which other
  skeleton they are about).
-/
import Panrpc.Lemmas.EndpointCurrent
import Panrpc.Pinned

namespace Panrpc.Ep

/-! ### C16 -/

/-- Link does not return while the link is healthy: a returned Link thread implies that some
    thread's `setErr` has already stored an error. -/
theorem C16_blocks_while_healthy : ∀ s, Reach Skeleton.current s → ∀ e, s.link = .returned e → s.fatalLog ≠ [] := by
  intro s h e he hnil
  have hi := reach_fi _ cur_firstonly h
  obtain ⟨rfl, hne⟩ := hi.ret_ok e he
  exact hne (hi.slot_none_iff.mpr hnil)

/-- The value Link returns is non-nil and is the first error that was reported — never a later one. -/
theorem C16_returns_first : ∀ s, Reach Skeleton.current s → ∀ e, s.link = .returned e →
    e = s.fatalLog.head? ∧ e ≠ none := by
  intro s h e he
  have hi := reach_fi _ cur_firstonly h
  have := hi.ret_ok e he
  exact ⟨this.1.trans hi.slot_head, this.2⟩

/-- The slot holds the first reported error at all times (it is never overwritten). -/
theorem C16_slot_is_first : ∀ s, Reach Skeleton.current s → s.slot = s.fatalLog.head? :=
  fun _ h => (reach_fi _ cur_firstonly h).slot_head

/-- The pending-call table is closed only after an error has been stored: everything that
    merely *observes* the dead link (a call refused with ErrClosed, a waiter woken by the close)
    comes after the primary error is in the slot, and can only be appended to the log. -/
theorem C16_first_is_primary : ∀ s, Reach Skeleton.current s → s.bc.closed = true →
    s.slot ≠ none ∧ s.fatalLog ≠ [] := by
  intro s h hc
  have hp := (reach_pi _ cur_storefirst h).closed_set hc
  exact ⟨mt (reach_fi _ cur_firstonly h).slot_none_iff.mp hp, hp⟩

/-- …in particular the consequential `ErrClosed` (which only the closed table produces, through a
    refused `Receive` in a stub that then panics into `setErr`) is never what Link returns. -/
theorem C16_closed_never_first : ∀ s, Reach Skeleton.current s →
    s.fatalLog.head? ≠ some eClosed ∧ s.slot ≠ some eClosed ∧ s.link ≠ .returned (some eClosed) := by
  intro s h
  have hi := reach_fi _ cur_firstonly h
  have hp := (reach_pi _ cur_storefirst h).head_ne
  refine ⟨hp, by rw [hi.slot_head]; exact hp, ?_⟩
  intro hl
  have := (hi.ret_ok _ hl).1
  rw [hi.slot_head] at this
  exact hp this.symm

/-- Promptness, enabledness form: once an error has been stored, the Link thread returns the slot
    by at most two further steps of its own (`linkCheck`/`linkWake`, `linkReturn`), whatever the
    handlers, loops and readers do — none of their steps is needed. -/
theorem C16_prompt : ∀ s, Reach Skeleton.current s → s.fatalLog ≠ [] →
    ∃ acts, acts.length ≤ 2 ∧ acts.all isLinkAct = true ∧
      (run Skeleton.current s acts).map (·.link) = some (.returned s.slot) :=
  fun s h hl => link_can_return _ s
    (reach_no_crash _ cur_live.recovers cur_hyg cur_nochanclose h) (reach_fi _ cur_firstonly h) hl

/-- Promptness, bounded-steps form: the Link thread takes at most 3 own steps in a whole run
    (`linkMeasure` starts at 3, strictly decreases on each own step, never increases otherwise);
    and it is never parked once an error is stored. -/
theorem C16_prompt_bound : ∀ s s' a, step Skeleton.current s a = some s' →
    (isLinkAct a = true → linkMeasure s'.link < linkMeasure s.link) ∧
    (isLinkAct a = false → linkMeasure s'.link ≤ linkMeasure s.link) :=
  fun _ _ => link_measure_step _

theorem C16_never_parked_after_error : ∀ s, Reach Skeleton.current s → s.fatalLog ≠ [] → s.link ≠ .waiting :=
  fun _ h hl hw => hl ((reach_fi _ cur_firstonly h).waiting_nil hw)

/-! ### non-vacuity -/

/-- a healthy link: Link is parked, nothing stored -/
example : (run Skeleton.current init [.linkCheck, .callStart 0 5 2 0, .callReceive 0]).map
    (fun s => decide (s.link = .waiting ∧ s.fatalLog = [])) = some true := rfl

/-- read error (ext 7) first, then a call on the dead link reports ErrClosed: Link returns the read error -/
example : (run Skeleton.current init
    [.linkCheck, .setErrEnter 10 7, .setErrStore 10, .setErrClose 10,
     .callStart 0 5 2 0, .callReceive 0, .callRecover 0 eClosed, .setErrStore 0, .setErrClose 0,
     .linkWake, .linkReturn]).map
    (fun s => decide (s.link = .returned (some (eExt 7)) ∧ s.fatalLog = [eExt 7, eClosed] ∧ s.bc.closed = true)) = some true := rfl

/-! ### the pinned tree violates the property (F6): `setErr` closed the table before storing,
    and overwrote the slot -/

/-- (a) a consequential `ErrClosed` is stored first and returned: thread 10 reports a read error,
    closes the table, and before it stores, a new call is refused and stores `ErrClosed`. -/
theorem C16_wrong_error_on_pinned : ∃ acts, (run Skeleton.pinned init acts).map
    (fun s => decide (s.link = .returned (some eClosed) ∧ s.setters 10 = .closedFirst (eExt 7))) = some true :=
  ⟨[.setErrEnter 10 7, .setErrClose 10,
    .callStart 0 5 2 0, .callReceive 0, .callRecover 0 eClosed, .setErrClose 0, .setErrStore 0,
    .linkCheck, .linkReturn], rfl⟩

/-- (b) the slot is overwritten: Link is woken by the first error and returns the second. -/
theorem C16_overwrite_on_pinned : ∃ acts, (run Skeleton.pinned init acts).map
    (fun s => decide (s.link = .returned (some (eExt 8)) ∧ s.fatalLog.head? = some (eExt 7))) = some true :=
  ⟨[.linkCheck, .setErrEnter 10 7, .setErrClose 10, .setErrStore 10,
    .setErrEnter 11 8, .setErrClose 11, .setErrStore 11, .linkWake, .linkReturn], rfl⟩

/-- `C16_blocks_while_healthy` needs every `setErr` of M2 to stem from a failure OF THE LINK.  The stub
    turns any error of `Receive` into `setErr`; `Receive` fails only when the table is closed (source fact
    `bcReceiveErrorsOnlyClosed`, checked against the regenerated skeleton) — i.e. only when `setErr` has run
    already.  Hence the error of a call's OWN context never ends the link: no stub ever panics with it, no
    `setErr` is ever entered with it, it is never stored — not first, not later — and `Link` never returns
    it.  (Were `Receive` to refuse a context that is already done, one call made with an expired context
    would end a healthy link and `Link` would return that call's context error:
    `C16_link_would_return_a_call_context_error`.) -/
theorem C16_only_link_failures_end_the_link : ∀ s, Reach Skeleton.current s →
    (∀ c, (s.calls c).pc ≠ .panicking eCallCtx ∧ (s.calls c).outcome ≠ .failed eCallCtx) ∧
    (∀ t, s.setters t ≠ .entered eCallCtx ∧ s.setters t ≠ .stored eCallCtx ∧ s.setters t ≠ .closedFirst eCallCtx) ∧
    eCallCtx ∉ s.fatalLog ∧ s.slot ≠ some eCallCtx ∧ s.link ≠ .returned (some eCallCtx) := by
  intro s h
  have hx := reach_flow _ (Q := (· ≠ eCallCtx))
    ⟨by decide, by decide, by decide, by decide, fun n => by simp [eExt, eCallCtx], .inr ⟨cur_wakes.onlyClosed, cur_live.panicSites⟩⟩ h
  exact ⟨fun c => ⟨fun e => hx.pan c _ e rfl, fun e => hx.out c _ e rfl⟩,
    fun t => ⟨fun e => hx.set t _ (.inl e) rfl, fun e => hx.set t _ (.inr (.inl e)) rfl,
      fun e => hx.set t _ (.inr (.inr e)) rfl⟩,
    fun e => hx.log _ e rfl, fun e => hx.slot _ e rfl, fun e => hx.link _ (.inr e) rfl⟩

/-- steps by which the environment makes the link fail (a loop / handler / the remote-definition walk
    reporting an error, the link context ending and its watcher, a failing write or marshal, a response
    frame): none of them occurs in the witness run below -/
def isLinkFailure : Act → Bool
  | .setErrEnter .. | .watcher .. | .cancelLink | .callWriteFail .. | .callMarshalFail .. | .callLinkCtx ..
  | .respFrame .. => true
  | _ => false

/-- What the fact protects against, as a behaviour of the model: on the current tree with that ONE fact
    flipped (`Receive` refuses a context that is done already), `Link` is parked on a healthy link with a
    call in flight; a second call is made with an expired context.  Its refused `Receive` becomes a panic,
    the recovering stub calls `setErr` with the CALL's context error, and `Link` wakes up and returns it —
    although no step of the run is a failure of the link (no loop, handler or watcher entered `setErr`, the
    link context is alive, nothing failed to be written): the only `setErr` of the run is the one of call
    1's recover. -/
theorem C16_link_would_return_a_call_context_error : ∃ acts, acts.all (fun a => !isLinkFailure a) = true ∧
    (run skRefusesDoneCtx init acts).map
      (fun s => decide (s.link = .returned (some eCallCtx) ∧ s.fatalLog = [eCallCtx] ∧ s.bc.closed = true ∧
                        s.setters 1 = .done ∧ s.linkCtxDone = false ∧ s.watcherFired = false ∧
                        (s.calls 0).pc = .written)) = some true :=
  ⟨[.linkCheck,
    .callStart 0 5 2 0, .callReceive 0, .callSpawn 0, .callWrite 0, .waiterRecvCall 0,
    .ctxCancel 6,
    .callStart 1 6 2 0, .callReceive 1, .callRecover 1 eCallCtx, .setErrStore 1, .setErrClose 1,
    .linkWake, .linkReturn], by decide, by decide⟩

/-- The second fact `C16_only_link_failures_end_the_link` rests on (`panicSitesCanonical`), as a behaviour of the
    model: on the current tree with that ONE fact flipped (the stub panics when the response it takes carries the
    call's own context error — "the resolver was closed beneath us"), a call whose context ends while it is in
    flight takes `Link` down with it: `Link` returns that CALL's context error, the table is closed under the
    sibling call still in flight — and no step of the run is a failure of the link. -/
theorem C16_panicking_on_a_call_outcome_ends_the_link : ∃ acts, acts.all (fun a => !isLinkFailure a) = true ∧
    (run skPanicsOnOutcome init acts).map
      (fun s => decide (s.link = .returned (some eCallCtx) ∧ s.fatalLog = [eCallCtx] ∧ s.bc.closed = true ∧
                        s.linkCtxDone = false ∧ s.watcherFired = false ∧
                        (s.calls 0).pc = .written)) = some true :=
  ⟨[.linkCheck,
    .callStart 0 5 2 0, .callReceive 0, .callSpawn 0, .callWrite 0, .waiterRecvCall 0,
    .callStart 1 6 2 0, .callReceive 1, .callSpawn 1, .callWrite 1, .waiterRecvCall 1,
    .ctxCancel 6,
    .waiterGetsCtx 1, .waiterSend 1, .waiterFree 1, .callTakeRes 1 false, .callRecover 1 eCallCtx, .setErrStore 1, .setErrClose 1,
    .linkWake, .linkReturn], by decide, by decide⟩

/-- The positive counterpart on the current tree: the same run up to call 1's `Receive` registers call 1,
    which returns its context error the regular way; `Link` stays parked, nothing is stored, the table stays
    open and call 0 stays in flight. -/
theorem C16_done_context_call_leaves_link_healthy :
    (run Skeleton.current init
      [.linkCheck,
       .callStart 0 5 2 0, .callReceive 0, .callSpawn 0, .callWrite 0, .waiterRecvCall 0,
       .ctxCancel 6,
       .callStart 1 6 2 0, .callReceive 1, .callSpawn 1, .callWrite 1, .waiterRecvCall 1,
       .waiterGetsCtx 1, .waiterSend 1, .waiterFree 1, .callTakeRes 1 false, .callReturnOk 1]).map
      (fun s => decide (s.link = .waiting ∧ s.fatalLog = [] ∧ s.slot = none ∧ s.bc.closed = false ∧
                        (s.calls 1).pc = .returned ∧ (s.calls 1).outcome = .ok ⟨none, .ctxErr⟩ ∧
                        (s.calls 0).pc = .written ∧ s.waiters 0 = .recv)) = some true := by decide

/-- `C16_prompt` counts M2's `setErrEnter / setErrStore / setErrClose` as steps that are always enabled for
    the thread inside `setErr`.  In the source that needs `setErr` to wait for nobody: the only lock it takes
    is its own condition variable's (whose critical sections run no foreign code), it has no channel
    operation, select or wait, and the failing read loop reaches it without waiting either (checked
    against the regenerated skeleton).  A `setErr` that first took e.g. the registry's remotes lock would
    hang for as long as application code sits in the enumeration callback — and `Link` with it. -/
theorem C16_setErr_waits_for_nobody :
    Skeleton.current.seOnlyOwnLock = true ∧ Skeleton.current.seStoreUnderLock = true ∧
    Skeleton.current.reqLoopBlocksOnlyOnRead = true ∧ Skeleton.current.respLoopBlocksOnlyOnRead = true := by decide

/-- M2's `linkReturn` returns the fatal slot.  In the source the variable `Link` returns is assigned from
    the slot only (checked against the regenerated skeleton) — not, say, overridden by the link context's
    error when the application cancels the context BECAUSE the link failed. -/
theorem C16_link_returns_the_slot : Skeleton.current.linkReturnsOnlyFatalSlot = true ∧ Skeleton.current.linkWaitsOnCond = true := by decide

/-- A failure inside a closure proxy (undecodable closure id, failing stub) is a failure of the link: the
    proxy reports it with `setErr` (checked against the regenerated skeleton), so `Link` returns it. -/
theorem C16_proxy_failures_are_fatal :
    Skeleton.current.pxRecoverReports = true ∧ Skeleton.current.seClosesOnEveryPath = true := by decide

/-- A closure that panics — with a runtime error too — is an error result of that invocation (`utils.Call` recovers
    every panic and re-raises none; every `panic(…)` of the library hands on a tested error, a sentinel or a context's
    error): `Link` keeps blocking (checked against the regenerated skeleton; `utils/call.go` is outside this property's
    anchors). -/
theorem C16_a_panicking_closure_does_not_end_the_link :
    Skeleton.current.ucRecovers = true ∧ Skeleton.current.ucNonErrorPanicMapped = true ∧ Skeleton.current.panicSitesCanonical = true ∧ Skeleton.current.clCallViaUtilsCall = true ∧ Skeleton.current.ucResultsUntouched = true := by decide

end Panrpc.Ep

#print axioms Panrpc.Ep.C16_setErr_waits_for_nobody
#print axioms Panrpc.Ep.C16_only_link_failures_end_the_link
#print axioms Panrpc.Ep.C16_link_would_return_a_call_context_error
#print axioms Panrpc.Ep.C16_panicking_on_a_call_outcome_ends_the_link
#print axioms Panrpc.Ep.C16_done_context_call_leaves_link_healthy

#print axioms Panrpc.Ep.C16_blocks_while_healthy
#print axioms Panrpc.Ep.C16_returns_first
#print axioms Panrpc.Ep.C16_slot_is_first
#print axioms Panrpc.Ep.C16_first_is_primary
#print axioms Panrpc.Ep.C16_closed_never_first
#print axioms Panrpc.Ep.C16_prompt
#print axioms Panrpc.Ep.C16_prompt_bound
#print axioms Panrpc.Ep.C16_never_parked_after_error
#print axioms Panrpc.Ep.C16_wrong_error_on_pinned
#print axioms Panrpc.Ep.C16_overwrite_on_pinned
#print axioms Panrpc.Ep.C16_link_returns_the_slot
#print axioms Panrpc.Ep.C16_proxy_failures_are_fatal
#print axioms Panrpc.Ep.C16_a_panicking_closure_does_not_end_the_link
