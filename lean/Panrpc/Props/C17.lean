/-
  Props/C17.lean — "Every frame panrpc emits decodes, with an independent decoder, to the
  documented shape: a request carries a unique non-empty call id, the dotted function name and an
  array with one separately encoded element per non-context argument (an empty array, never null,
  for none); a response carries the call id of the request it answers, a validly encoded value
  (null when there is none) and an error string that is empty exactly when the error is nil; a
  stream envelope carries exactly one of request and response.  Conversely, frames hand-written to
  this specification by a foreign implementation are accepted and answered."

  Model: P3 (Model/Wire.lean).  The property theorems are about `Skeleton.current` (the witness theorems say in
  their statements which other skeleton they are about).  `σ` is any serializer,
  `V` / `P` any value / payload types.

  Carried elsewhere: that the call id is fresh per call and non-empty (`uuid.NewString()`:
  `stubCallIdFresh` + the freshness assumption of the trusted base, M2); that the request parsed from
  a foreign frame is resolved by name and its handler run (P1 Lookup, M2).  Here: the frames.
-/
import Panrpc.Lemmas.WireCurrent

namespace Panrpc.Wire

/-- The request frame of a call, literally: exactly the three documented members; `call` is the call
    id, `function` the stub's name, `args` an array holding, for the i-th argument after the
    context, the payload `marshal` returned for it (`argValue σ (.val v τ) = v`; for a func
    argument `argValue σ (.func id) = σ.ofStr id`, the closure id as a string).  The stub emits
    this frame whenever its first argument is a context. -/
theorem C17_request_shape {V P : Type} (σ : Codec V P) (callId name : String) (a : Arg V) (rest : List (Arg V)) :
    mkRequest Skeleton.current σ callId name (a :: rest) =
      .obj [ ("call", .str callId), ("function", .str name),
             ("args", .arr (rest.map fun x => .raw (σ.enc (argValue σ x)))) ]
    ∧ stubBuild Skeleton.current σ callId name (.ctx :: rest) =
        .frame (mkRequest Skeleton.current σ callId name (.ctx :: rest)) := by
  refine ⟨?_, stubBuild_ctx _ cur_req.funcReg σ callId name rest⟩
  rw [mkRequest_eq _ cur_req, cur_tags.reqCall, cur_tags.reqFunction, cur_tags.reqArgs]

/-- `args` is an array — never `null`, also for no arguments — of length = number of non-context
    arguments, whose i-th element is the separately encoded i-th argument. -/
theorem C17_request_args {V P : Type} (σ : Codec V P) (callId name : String) (a : Arg V) (rest : List (Arg V)) :
    ∃ xs, (mkRequest Skeleton.current σ callId name (a :: rest)).field "args" = some (.arr xs) ∧
      xs.length = rest.length ∧
      (∀ (i : Nat) x, rest[i]? = some x → xs[i]? = some (Tree.raw (σ.enc (argValue σ x)))) ∧
      (mkRequest Skeleton.current σ callId name (a :: rest)).keys = ["call", "function", "args"] ∧
      (mkRequest Skeleton.current σ callId name (a :: rest)).field "call" = some (.str callId) ∧
      (mkRequest Skeleton.current σ callId name (a :: rest)).field "function" = some (.str name) := by
  rw [(C17_request_shape σ callId name a rest).1]
  exact ⟨_, rfl, by simp, fun i x hx => by simp [hx], rfl, rfl, rfl⟩

/-- The response frame, literally: three members; `call` is the `Call` of the request answered;
    `value` is the payload of the returned value, or of `nil` when the function returns none (or only
    an error); `err` is a string: the error's message, or "" for a nil error. -/
theorem C17_response_shape {V P : Type} (σ : Codec V P) (reqCall : String) (r : Ret V) :
    mkResponse Skeleton.current σ reqCall r =
      .obj [ ("call", .str reqCall), ("value", .raw (respValue σ r)), ("err", .str (respErrStr r)) ]
    ∧ respValue σ r = ((r.val).map σ.enc).getD σ.encNil
    ∧ respErrStr r = (r.err).getD "" := by
  refine ⟨?_, respValue_eq σ r, respErrStr_eq_err r⟩
  rw [mkResponse_eq _ cur_res, cur_tags.resCall, cur_tags.resValue, cur_tags.resErr]

/- Full statement ("an error string that is empty exactly when the error is nil"):
     ∀ r, resErrField Skeleton.current (mkResponse Skeleton.current σ reqCall r) = some "" ↔ r.err = none
   It is FALSE for the code as it is (`C17_empty_message_sent_as_nil` below, finding F7).  Proved: the
   same under the hypothesis that a non-nil error's message is not the empty string. -/
theorem C17_err_empty_iff_nil_partial {V P : Type} (σ : Codec V P) (reqCall : String) (r : Ret V)
    (hne : ∀ m, r.err = some m → m ≠ "") :
    resErrField Skeleton.current (mkResponse Skeleton.current σ reqCall r) = some "" ↔ r.err = none := by
  rw [resErrField_mkResponse _ cur_res]
  simpa using respErrStr_empty_iff r hne

/-- F7, for `Skeleton.current`: a handler that returns a non-nil error whose message is "" produces
    the very frame a nil error produces (`err: ""`), and the caller gets a nil error.  The documented
    protocol ("nil errors are represented by the empty string") cannot represent this error. -/
theorem C17_empty_message_sent_as_nil {V P : Type} (σ : Codec V P) (reqCall : String) (v : V)
    (prev : Option String) (τ : Nat) :
    resErrField Skeleton.current (mkResponse Skeleton.current σ reqCall (.oneErr (some "") : Ret V)) = some ""
    ∧ mkResponse Skeleton.current σ reqCall (.oneErr (some "") : Ret V)
        = mkResponse Skeleton.current σ reqCall (.oneErr none)
    ∧ mkResponse Skeleton.current σ reqCall (.two v (some ""))
        = mkResponse Skeleton.current σ reqCall (.two v none)
    ∧ callerResult Skeleton.current σ prev 1 true τ
        (mkResponse Skeleton.current σ reqCall (.oneErr (some "") : Ret V)) = some (.errOnly none) := by
  refine ⟨resErrField_mkResponse _ cur_res σ reqCall _, rfl, rfl, ?_⟩
  rw [callerResult_mkResponse _ cur_res cur_err_value_distinct]
  simp only [respErrStr, respErr_empty _ cur_dec, decodeResult_one_err _ cur_dec]

/-- A stream envelope has the two documented members and exactly one of them is non-null: the frame
    for a request envelope, the frame for a response envelope (panrpc's frames are objects, never
    `null`); the independent decoder classifies them accordingly. -/
theorem C17_envelope_xor {V P : Type} (σ : Codec V P) (callId name reqCall : String)
    (args : List (Arg V)) (r : Ret V) :
    let rq : Tree P := mkRequest Skeleton.current σ callId name args
    let rs : Tree P := mkResponse Skeleton.current σ reqCall r
    mkEnvelope Skeleton.current true rq = .obj [("request", rq), ("response", .null)] ∧ rq.isNull = false ∧
    mkEnvelope Skeleton.current false rs = .obj [("request", .null), ("response", rs)] ∧ rs.isNull = false ∧
    parseEnvelope (mkEnvelope Skeleton.current true rq) = some (true, rq) ∧
    parseEnvelope (mkEnvelope Skeleton.current false rs) = some (false, rs) := by
  intro rq rs
  have h1 := mkEnvelope_eq Skeleton.current cur_env true rq
  have h2 := mkEnvelope_eq Skeleton.current cur_env false rs
  rw [cur_tags.msgRequest, cur_tags.msgResponse] at h1 h2
  exact ⟨h1, rfl, h2, rfl, parseEnvelope_mkEnvelope _ cur_env cur_tags true rq rfl,
    parseEnvelope_mkEnvelope _ cur_env cur_tags false rs rfl⟩

/-- (a) panrpc's own request and response frames decode with the independent decoder
    (`parseRequest` / `parseResponse`: documented keys, any key order, unknown keys ignored) to
    exactly what was put in.
    (b) Any object with unique keys that has `call` and `function` strings and, as `args`, an array of
    payloads — or, for no arguments, `null` or no such member — in any order and among any other
    members, is accepted by it,
    (c) and whatever it accepts, Go's own decoder (`goDecodeRequest`) reads identically, and every
    response built for that request — whatever the handler returns — carries its call id. -/
theorem C17_foreign_accepted {V P : Type} (σ : Codec V P) :
    (∀ callId name (a : Arg V) rest,
        parseRequest (mkRequest Skeleton.current σ callId name (a :: rest)) =
          some (callId, name, rest.map fun x => σ.enc (argValue σ x))) ∧
    (∀ reqCall (r : Ret V),
        parseResponse (mkResponse Skeleton.current σ reqCall r) = some (reqCall, respValue σ r, respErrStr r)) ∧
    (∀ (kvs : List (String × Tree P)) c f ps, (kvs.map Prod.fst).Nodup →
        ("call", Tree.str c) ∈ kvs → ("function", Tree.str f) ∈ kvs →
        (("args", Tree.arr (ps.map Tree.raw)) ∈ kvs ∨
          (ps = [] ∧ (("args", Tree.null) ∈ kvs ∨ ∀ v, ("args", v) ∉ kvs))) →
        parseRequest (.obj kvs) = some (c, f, ps)) ∧
    (∀ (t : Tree P) c f ps, parseRequest t = some (c, f, ps) →
        goDecodeRequest Skeleton.current t = some (c, f, ps) ∧
        ∀ r : Ret V, parseResponse (mkResponse Skeleton.current σ c r) = some (c, respValue σ r, respErrStr r)) :=
  ⟨parseRequest_mkRequest _ cur_req cur_tags σ, parseResponse_mkResponse _ cur_res cur_tags σ, parseRequest_accepts,
   fun t c _ _ hp => ⟨goDecodeRequest_of_parseRequest _ cur_tags t _ hp,
     parseResponse_mkResponse _ cur_res cur_tags σ c⟩⟩

/-! ### non-vacuity (V = P = String, `idCodec`) -/

/-- `Ping(ctx, "a", func…, "b")`: three wire arguments, the closure as its id -/
example : mkRequest Skeleton.current idCodec "id-1" "Svc.Ping" [.ctx, .val "a" 0, .func "cl-7", .val "b" 0] =
    .obj [("call", .str "id-1"), ("function", .str "Svc.Ping"), ("args", .arr [.raw "a", .raw "cl-7", .raw "b"])] := rfl

/-- no arguments: an empty array -/
example : (mkRequest Skeleton.current idCodec "id-1" "F" [.ctx]).field "args" = some (.arr []) := rfl

example : stubBuild Skeleton.current idCodec "id-1" "F" [.val "x" 0] = .panic "ErrInvalidArgs" := rfl

example : mkResponse Skeleton.current idCodec "id-1" (.two "v" (some " boom ")) =
    .obj [("call", .str "id-1"), ("value", .raw "v"), ("err", .str " boom ")] := rfl
example : mkResponse Skeleton.current idCodec "id-1" (.none0 : Ret String) =
    .obj [("call", .str "id-1"), ("value", .raw "null"), ("err", .str "")] := rfl

/-- the hypothesis of `C17_err_empty_iff_nil_partial` is met by a real error … -/
example : ∀ m, (Ret.two "v" (some "boom")).err = some m → m ≠ "" := by
  intro m h; cases h; decide
/-- … and F7 on concrete data -/
example : mkResponse Skeleton.current idCodec "id-1" (.oneErr (some "") : Ret String) =
    .obj [("call", .str "id-1"), ("value", .raw "null"), ("err", .str "")] := rfl

/-- a foreign frame: other key order, an unknown member, no `args` member -/
example : parseRequest (P := String) (.obj [("function", .str "F"), ("x-trace", .str "t"), ("call", .str "42")]) =
    some ("42", "F", []) := rfl
example : goDecodeRequest (P := String) Skeleton.current
    (.obj [("args", .null), ("function", .str "F"), ("call", .str "42")]) = some ("42", "F", []) := rfl
example : parseRequest (P := String) (.obj [("args", .arr [.raw "1", .raw "2"]), ("call", .str "42"), ("function", .str "A.B")]) =
    some ("42", "A.B", ["1", "2"]) := rfl

example : parseEnvelope (mkEnvelope Skeleton.current false (mkResponse Skeleton.current idCodec "c" (.oneVal "v"))) =
    some (false, mkResponse Skeleton.current idCodec "c" (.oneVal "v")) := rfl

/-! the source facts are load-bearing: with `Args:` left nil the frame for no arguments has `null` -/
example : (mkRequest { Skeleton.current with stubRequestArgsInitEmpty := false } idCodec "id" "F" [.ctx]).field "args"
    = some .null := rfl
example : (mkRequest { Skeleton.current with stubCtxSkipped := false } idCodec "id" "F" [.ctx]).field "args"
    = some (.arr [.raw "<context>"]) := rfl

/-- `mkResponse` is given "the request's call id": in the source that is `req.Call` read by the handler
    goroutine when it builds the response, long after the read loop may have decoded later frames.  The
    request (and response) structs are declared inside the loop body, so every frame has its own and a
    later frame cannot overwrite the id an earlier handler still needs (checked against the regenerated
    skeleton). -/
theorem C17_frame_struct_per_iteration :
    Skeleton.current.reqFrameFreshPerIteration = true ∧ Skeleton.current.respFrameFreshPerIteration = true := by decide

/-- A closure invocation is an ordinary request (`C17_request_shape` applies to it) for `CallClosure`
    with two arguments: the closure id and the closure's own argument list, the latter handed to `marshal`
    as ONE value.  That value is a slice initialised to the empty, non-nil `[]interface{}{}` inside the
    per-invocation literal and appended to once per non-context argument (checked against the regenerated
    skeleton) — so a closure that takes only the context is invoked with `[]`, never with `null` (which
    is what a nil slice encodes to, and what a foreign implementation that spreads the list chokes on). -/
theorem C17_closure_arglist_is_array : Skeleton.current.pxArgsFreshPerInvocation = true := by decide

/-- `mkRequest` / `mkResponse` / `parseRequest` describe what `marshal` and `unmarshal` are handed: the frame
    structs themselves.  The four `Marshal` / `Unmarshal` methods of utils/messages.go do exactly that and
    nothing else (checked against the regenerated skeleton) — in particular no member (such as the call id
    a response must echo) is rewritten after decoding. -/
theorem C17_codec_methods_are_plain : Skeleton.current.msgCodecPlain = true := by decide

/-- `err` is the empty string exactly when the function's error IS nil: the results reach the responder untouched
    through `utils.Call`, and a closure whose declared error type is a concrete pointer type yields a nil `error` for
    its nil pointer — decided by `IsNil()` on the result value itself (both checked against the regenerated skeleton;
    `rpc/manager.go` and `utils/call.go` are outside this property's anchors). -/
theorem C17_error_member_reflects_the_returned_error :
    Skeleton.current.ucResultsUntouched = true ∧ Skeleton.current.clNilErrorViaIsNil = true := by decide

/-- A `CallClosure` request whose closure PANICS (a runtime error included) is answered with a response frame carrying
    the panic's message: `utils.Call` recovers every panic and re-raises none — every `panic(…)` of the library hands on
    a tested error, a sentinel or a context's error (checked against the regenerated skeleton; `utils/call.go` is
    outside this property's anchors). -/
theorem C17_a_failing_closure_is_answered :
    Skeleton.current.ucRecovers = true ∧ Skeleton.current.ucNonErrorPanicMapped = true ∧ Skeleton.current.panicSitesCanonical = true ∧ Skeleton.current.clCallViaUtilsCall = true := by decide

/-- `Receive` fails only on a closed table — a context that is done already is registered and reported through the
    receive function, to that one caller — and the stub panics only on failures of the link (both checked against the
    regenerated skeleton; `utils/broadcaster.go` is outside this property's anchors). Otherwise a handler that invokes a
    callable (or makes any call) with a context of its own that has expired ends the link and later spec-conformant
    frames of the peer are neither accepted nor answered. -/
theorem C17_frames_keep_flowing_after_an_expired_call :
    Skeleton.current.bcReceiveErrorsOnlyClosed = true ∧ Skeleton.current.panicSitesCanonical = true := by decide

end Panrpc.Wire

#print axioms Panrpc.Wire.C17_closure_arglist_is_array
#print axioms Panrpc.Wire.C17_request_shape
#print axioms Panrpc.Wire.C17_request_args
#print axioms Panrpc.Wire.C17_response_shape
#print axioms Panrpc.Wire.C17_err_empty_iff_nil_partial
#print axioms Panrpc.Wire.C17_empty_message_sent_as_nil
#print axioms Panrpc.Wire.C17_envelope_xor
#print axioms Panrpc.Wire.C17_foreign_accepted
#print axioms Panrpc.Wire.C17_frame_struct_per_iteration
#print axioms Panrpc.Wire.C17_codec_methods_are_plain
#print axioms Panrpc.Wire.C17_error_member_reflects_the_returned_error
#print axioms Panrpc.Wire.C17_a_failing_closure_is_answered
#print axioms Panrpc.Wire.C17_frames_keep_flowing_after_an_expired_call
