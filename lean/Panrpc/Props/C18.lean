/-
  Props/C18.lean — "Linking succeeds for a remote definition exactly when every function-typed
  field, at any nesting depth, takes a context first and returns either an error or a value
  and an error; any other function field makes Link fail with the corresponding signature
  error, and non-function fields are ignored.  For every valid definition, invoking the
  function field at nested path P calls the peer's method at the same path P — caller-side
  naming and callee-side lookup agree for all shapes."

  Model: P2 (Model/RemoteDef.lean), the remote struct type as a tree of fields; quantified
  over ALL trees (depth, order, mixes of valid / invalid / non-func fields, exportedness).
  Specification: Lemmas/RemoteDef.lean (`funcs`, `AllValid`, `firstInvalid`, `Settable`, …).
  The property theorems are about `Skeleton.current` (the witness theorems say in their statements which other
  skeleton they are about), i.e. the facts regenerated from /repo on this run.

  `C18_total`: on a tree without the settable-ness guard it does not type-check (`by decide` on
  `rwGuardsUnsettable`), and `C18_panics_on_pinned` exhibits the crash.  The theorems above it hold with
  and without the guard.
-/
import Panrpc.Lemmas.RemoteDef
import Panrpc.Generated.Current
import Panrpc.Pinned

namespace Panrpc.Rw

/-! ### the source facts these theorems rest on (checked against the regenerated skeleton) -/

theorem cur_rwstd : RwStd Skeleton.current := by constructor <;> decide

/-! ### validation -/

/-- Linking succeeds exactly when every func field, at any depth, has a valid signature
    (for remote types whose func fields can all be set: exported, not below an unexported field). -/
theorem C18_validate_iff : ∀ fs : List Field, Settable fs →
    ((∃ stubs, walk Skeleton.current "" false fs = .ok stubs) ↔ AllValid fs) := by
  intro fs hs
  have := link_spec _ cur_rwstd fs
  refine ⟨fun ⟨st, h⟩ => by rw [h] at this; exact this.1, fun hv => ?_⟩
  cases h : walk Skeleton.current "" false fs <;> simp only [h] at this
  · exact ⟨_, rfl⟩
  · exact absurd hv ((not_allValid_iff fs).mpr ⟨_, this.1⟩)
  · exact absurd hs this.2.1

/-- Which error: if some func field is invalid and the walk gets as far as the first such field
    (every func field before it can be set), Link fails with the error of that FIRST invalid
    field in depth-first declaration order; `firstInvalid` judges the return shape before the
    arguments (`sigErr`). -/
theorem C18_error_kind : ∀ fs : List Field, ¬ AllValid fs → SettableUpToFirstInvalid fs →
    ∃ e, walk Skeleton.current "" false fs = .err e ∧ firstInvalid fs = some e := by
  intro fs hv hs
  have := link_spec _ cur_rwstd fs
  cases h : walk Skeleton.current "" false fs <;> simp only [h] at this
  · exact absurd this.1 hv
  · exact ⟨_, rfl, this.1⟩
  · exact absurd hs this.2.2

/-- Conversely, whenever the walk returns a signature error — no hypothesis on the type — it is
    the error of the first invalid func field in depth-first declaration order. -/
theorem C18_error_sound : ∀ (fs : List Field) (e : WalkErr),
    walk Skeleton.current "" false fs = .err e → firstInvalid fs = some e :=
  fun fs e h => by have := link_spec _ cur_rwstd fs; rw [h] at this; exact this.1

/-- The error kind of a single field: the return shape is tested before the arguments, and a
    field has no error exactly when it is valid. -/
theorem C18_sig_error (s : Sig) :
    (sigErr s = none ↔ ValidSig s) ∧
    (sigErr s = some .invalidReturn ↔ ¬ ((s.numOut = 1 ∨ s.numOut = 2) ∧ s.lastIsError = true)) ∧
    (sigErr s = some .invalidArgs ↔
      ((s.numOut = 1 ∨ s.numOut = 2) ∧ s.lastIsError = true) ∧ ¬ (s.numIn ≥ 1 ∧ s.firstIsCtx = true)) := by
  refine ⟨sigErr_none_iff s, ?_, ?_⟩ <;> unfold sigErr <;> (repeat' split) <;> simp_all

/-- A remote type whose func fields can all be set never makes the setup goroutine panic. -/
theorem C18_total_settable : ∀ fs : List Field, Settable fs →
    walk Skeleton.current "" false fs ≠ .panic :=
  fun fs hs h => by have := link_spec _ cur_rwstd fs; rw [h] at this; exact this.2.1 hs

/-- Non-func (and non-struct) fields are ignored: removing them at every depth leaves the
    outcome — stubs, error or panic — unchanged. -/
theorem C18_ignores_non_func : ∀ (fs : List Field) (pre : String) (ro : Bool),
    walk Skeleton.current pre ro (dropOther fs) = walk Skeleton.current pre ro fs :=
  walk_dropOther _ cur_rwstd

/-! ### naming -/

/-- The stubs installed are exactly the (settable) func fields, in depth-first declaration
    order; each sends the function string the Go code builds for its path. -/
theorem C18_stub_paths : ∀ (fs : List Field) (stubs : List (List String × String)),
    walk Skeleton.current "" false fs = .ok stubs →
    stubs.map Prod.fst = ((funcs false fs).filter (·.settable)).map (·.path) := by
  intro fs stubs h
  have := link_spec _ cur_rwstd fs; rw [h] at this
  simp [this.2.2, Function.comp_def]

/-- …which, when all func fields can be set, are all func fields of the type. -/
theorem C18_stub_paths_settable : ∀ (fs : List Field) (stubs : List (List String × String)),
    Settable fs → walk Skeleton.current "" false fs = .ok stubs →
    stubs.map Prod.fst = funcPaths fs := by
  intro fs stubs hs h
  rw [C18_stub_paths fs stubs h, funcPaths, List.filter_eq_self.mpr (by simpa [Settable] using hs)]

/-- Caller-side naming: the stub at path `p` sends `Request.Function = p` joined with dots
    (top-level names are non-empty, as Go identifiers are). -/
theorem C18_naming : ∀ (fs : List Field) (stubs : List (List String × String)),
    walk Skeleton.current "" false fs = .ok stubs →
    ∀ p fn, (p, fn) ∈ stubs → p.head? ≠ some "" →
      fn = ".".intercalate p ∧ p ≠ [] ∧ ∀ s ∈ p, s ∈ names fs := by
  intro fs stubs h p fn hm hp
  obtain ⟨x, hx, -, -, rfl, h1⟩ := walk_stub_mem _ cur_rwstd fs stubs h p fn hm
  exact ⟨h1.trans (joinPath_root _ hp), funcs_path false fs x hx⟩

/-- Callee side of the round trip, in composable form: splitting the dotted path at the dots
    (Go's `strings.Split(functionCallPath, ".")`) returns the field names that were joined. -/
theorem C18_split_join : ∀ path : List String, (∀ s ∈ path, '.' ∉ s.toList) → path ≠ [] →
    splitOnDot (".".intercalate path).toList = path.map String.toList :=
  splitOnDot_intercalate

/-- Caller and callee agree: for a type whose field names are non-empty and dot-free, the
    function string of every installed stub splits back into exactly the stub's path — the
    lookup descends through the same field names and ends at the method of the same name. -/
theorem C18_naming_agrees : ∀ (fs : List Field) (stubs : List (List String × String)),
    (∀ n ∈ names fs, n ≠ "" ∧ '.' ∉ n.toList) →
    walk Skeleton.current "" false fs = .ok stubs →
    ∀ p fn, (p, fn) ∈ stubs →
      fn = ".".intercalate p ∧ splitOnDot fn.toList = p.map String.toList := by
  intro fs stubs hn h p fn hm
  obtain ⟨x, hx, -, -, hp, h1⟩ := walk_stub_mem _ cur_rwstd fs stubs h p fn hm
  obtain ⟨h2, h3⟩ := hp ▸ funcs_path false fs x hx
  have hhead : p.head? ≠ some "" := by
    cases p with
    | nil => simp
    | cons a _ => simpa using (hn a (h3 a (by simp))).1
  have hfn := h1.trans (joinPath_root p hhead)
  exact ⟨hfn, hfn ▸ splitOnDot_intercalate p (fun s hs => (hn s (h3 s hs)).2) h2⟩

/-! ### non-vacuity -/

/-- `func(ctx context.Context) error` -/
def sigCtxErr : Sig := ⟨1, true, 1, true⟩
/-- `func(ctx context.Context, a int, b string) (T, error)` -/
def sigCtxValErr : Sig := ⟨3, true, 2, true⟩
/-- `func(ctx context.Context) int` — wrong return shape -/
def sigBadRet : Sig := ⟨1, true, 1, false⟩
/-- `func(a int) error` — no context -/
def sigBadArgs : Sig := ⟨1, false, 1, true⟩
/-- `func()` — both wrong: the return shape is reported -/
def sigBadBoth : Sig := ⟨0, false, 0, false⟩

/-- depth 3, mixed fields:
    `struct{ Ok func(ctx) error; n int; Inner struct{ s string; Get func(ctx,int,string)(T,error);
             Deep struct{ P *X; Leaf func(ctx) error } }; Last func(ctx) error }` -/
def exDeep : List Field :=
  [ .func "Ok" true sigCtxErr, .other "n" false,
    .struct "Inner" true
      [ .other "s" false, .func "Get" true sigCtxValErr,
        .struct "Deep" true [ .other "P" true, .func "Leaf" true sigCtxErr ] ],
    .func "Last" true sigCtxErr ]

example : Settable exDeep ∧ AllValid exDeep := by decide
example : walk Skeleton.current "" false exDeep =
    .ok [ (["Ok"], "Ok"), (["Inner", "Get"], "Inner.Get"),
          (["Inner", "Deep", "Leaf"], "Inner.Deep.Leaf"), (["Last"], "Last") ] := rfl
example : funcPaths exDeep = [["Ok"], ["Inner", "Get"], ["Inner", "Deep", "Leaf"], ["Last"]] := rfl
example : ∀ n ∈ names exDeep, n ≠ "" ∧ '.' ∉ n.toList := by decide
example : splitOnDot "Inner.Deep.Leaf".toList = ["Inner", "Deep", "Leaf"].map String.toList := rfl
example : dropOther exDeep =
    [ .func "Ok" true sigCtxErr,
      .struct "Inner" true [ .func "Get" true sigCtxValErr, .struct "Deep" true [ .func "Leaf" true sigCtxErr ] ],
      .func "Last" true sigCtxErr ] := rfl

/-- an invalid field at depth 2 after a valid one, and another invalid one (other kind) later -/
def exInvalid : List Field :=
  [ .func "Ok" true sigCtxErr,
    .struct "Inner" true [ .func "Fine" true sigCtxValErr, .func "Bad" true sigBadArgs ],
    .func "Worse" true sigBadRet ]

example : ¬ AllValid exInvalid ∧ SettableUpToFirstInvalid exInvalid := by decide
example : firstInvalid exInvalid = some .invalidArgs := rfl
example : walk Skeleton.current "" false exInvalid = .err .invalidArgs := rfl
example : sigErr sigBadBoth = some .invalidReturn := rfl
example : walk Skeleton.current "" false [.struct "A" true [.struct "B" true [.func "F" true sigBadBoth]]]
    = .err .invalidReturn := rfl
/-- validation precedes `Set`: an unexported func field with an invalid signature yields the error -/
example : walk Skeleton.current "" false [.func "bad" false sigBadRet] = .err .invalidReturn := rfl

/-! ### the defect of the pinned tree (F8) -/

/-- `struct{ Ok func(ctx) error; helper func(ctx) error }` -/
def exUnexported : List Field := [ .func "Ok" true sigCtxErr, .func "helper" false sigCtxErr ]

/-- On the pinned tree an unexported func field with a VALID signature reaches
    `reflect.Value.Set` on a read-only value: panic in the un-recovered setup goroutine. -/
theorem C18_panics_on_pinned : AllValid exUnexported ∧ walk Skeleton.pinned "" false exUnexported = .panic := by
  decide

/-- The same one level down: an exported func field below an unexported struct field. -/
example : walk Skeleton.pinned "" false [.struct "inner" false [.func "F" true sigCtxErr]] = .panic := rfl

/-! ### totality: needs the settable-ness guard in the source -/

/-- The walk never panics, for any remote struct type. -/
theorem C18_total : ∀ fs : List Field, walk Skeleton.current "" false fs ≠ .panic :=
  fun fs h => by have := link_spec _ cur_rwstd fs; rw [h] at this; exact absurd this.1 (by decide)

/-- Caller-side naming and callee-side lookup agree also for names the peer does NOT have: the resolver's fallback sees
    exactly one method, `CallClosure`, on the closure manager (checked against the regenerated skeleton;
    `rpc/manager.go` is outside this property's anchors) — a function field called like any further exported method of
    the manager would be resolved to library code. -/
theorem C18_lookup_resolves_nothing_but_the_exposed_paths :
    Skeleton.current.lkClosureManagerMethods = ["CallClosure"] := by decide

/-- The walker model judges a function field by the FIELD's signature and treats every non-struct-kinded field (pointers
    to structs included) as `other`. In the source the walk looks at `In(0)` and the results only, has no pointer
    handling and calls nothing of the closure validation (checked against the regenerated skeleton): a valid field whose
    callback PARAMETER has an unusual shape links, and a data struct reached through a pointer is ignored whatever it
    holds. -/
theorem C18_a_field_is_judged_by_its_own_signature :
    Skeleton.current.rwJudgesFieldSignatureOnly = true := by decide

end Panrpc.Rw

#print axioms Panrpc.Rw.C18_validate_iff
#print axioms Panrpc.Rw.C18_error_kind
#print axioms Panrpc.Rw.C18_error_sound
#print axioms Panrpc.Rw.C18_sig_error
#print axioms Panrpc.Rw.C18_total_settable
#print axioms Panrpc.Rw.C18_ignores_non_func
#print axioms Panrpc.Rw.C18_stub_paths
#print axioms Panrpc.Rw.C18_stub_paths_settable
#print axioms Panrpc.Rw.C18_naming
#print axioms Panrpc.Rw.C18_split_join
#print axioms Panrpc.Rw.C18_naming_agrees
#print axioms Panrpc.Rw.C18_panics_on_pinned
#print axioms Panrpc.Rw.C18_total
#print axioms Panrpc.Rw.C18_lookup_resolves_nothing_but_the_exposed_paths
#print axioms Panrpc.Rw.C18_a_field_is_judged_by_its_own_signature
