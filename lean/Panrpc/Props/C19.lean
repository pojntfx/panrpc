/-
  Props/C19.lean — "The publish/receive utility hands each value to one waiter and is safe to race".

  Model: M1 (Model/Broadcaster.lean), any number of publisher / receiver threads, keys and
  contexts, every interleaving of their atomic steps.  The property theorems are about
  `Skeleton.current`, i.e. about the facts regenerated from /repo's source on this run (the witness theorem
  `C19_fails_on_pinned` about `Skeleton.pinned`).
-/
import Panrpc.Lemmas.Broadcaster
import Panrpc.Generated.Current
import Panrpc.Pinned

namespace Panrpc.Bc

/-! ### the source facts these theorems rest on (checked against the regenerated skeleton) -/

theorem cur_hyg : Hyg Skeleton.current := by constructor <;> decide
theorem cur_nochanclose : NoChanClose Skeleton.current := by constructor <;> decide
theorem cur_wakes : Wakes Skeleton.current := by constructor <;> decide

/-- The current source never keeps the mutex across Publish's select. -/
theorem cur_lock_free : ∀ s, Reach Skeleton.current s → s.lockHolder = none :=
  fun _ => reach_lock_free (by decide)

/-- The atomic steps of M1 are what the source does: every broadcaster operation is a single
    critical section (checked against the regenerated skeleton).  All theorems below are about
    the model under this reading of the code. -/
theorem C19_model_atomicity : Atomic Skeleton.current := by constructor <;> decide

/-! ### C19 -/

/-- No interleaving of publish / receive / free / close / cancel panics (send on a closed
    channel, close of a closed channel). -/
theorem C19_no_panic : ∀ s, Reach Skeleton.current s → s.crashed = false :=
  fun _ h => (reach_nc cur_hyg cur_nochanclose h).nocrash

/-- A published value is handed to at most one receiver: no publisher occurs twice in the
    delivery log. -/
theorem C19_at_most_one_receiver : ∀ s, Reach Skeleton.current s → (s.deliveries.map Delivery.pub).Nodup :=
  fun _ h => (reach_dl h).nodup

/-- …and never to a receiver of another key. -/
theorem C19_no_cross_key : ∀ s, Reach Skeleton.current s → ∀ d, d ∈ s.deliveries → d.pkey = d.rkey :=
  fun _ h => (reach_dl h).same_key

/-- A value a receive function returned is a logged hand-off to that very receiver, on its key. -/
theorem C19_received_was_published : ∀ s, Reach Skeleton.current s → ∀ t k g x v,
    s.rcvs t = .gotVal k g x v →
    s.deliveries.any (fun d => decide (d.rcv = t ∧ d.val = v ∧ d.rkey = k)) = true :=
  fun _ h => (reach_dl h).got_logged

/-- Publish returns immediately for unknown keys and on a closed broadcaster: the lookup step
    is enabled (the mutex is never held across a blocking operation) and finishes the call. -/
theorem C19_publish_unknown_returns : ∀ s, Reach Skeleton.current s → ∀ p k v,
    s.pubs p = .start k v → (s.table k = none ∨ s.closed = true) →
    (step Skeleton.current s (.pubLookup p)).map (·.pubs p) = some (.done false) := by
  intro s h p k v hp hk
  have hk' : s.table k = none := hk.elim id fun hc => (reach_wk cur_hyg cur_wakes h).closed_empty hc k
  simp [step, (reach_nc cur_hyg cur_nochanclose h).nocrash, cur_lock_free s h, hp, hk']

/-- A publisher that already holds an entry returns once the key is freed or the broadcaster is
    closed: its `ctx.Done()` case is enabled (≤ 2 own steps per Publish call in total). -/
theorem C19_publish_returns_when_freed : ∀ s, Reach Skeleton.current s → ∀ p k v g,
    s.pubs p = .holding k v g → s.table k ≠ some g →
    (step Skeleton.current s (.pubCtx p)).map (·.pubs p) = some (.done false) := by
  intro s h p k v g hp hk
  obtain ⟨e, hent, he⟩ := (reach_wf h).pub_holding hp
  have hd := (reach_wk cur_hyg cur_wakes h).removed_ctx g e hent (he ▸ hk)
  simp [step, (reach_nc cur_hyg cur_nochanclose h).nocrash, hp, hent, hd,
    (by decide : Skeleton.current.bcPublishSelectsEntryCtx = true)]

/-- A receive function never blocks once its context is done. -/
theorem C19_receive_returns_on_ctx : ∀ s, Reach Skeleton.current s → ∀ t k g x,
    s.rcvs t = .waiting k g x → s.ctxs x = true →
    (step Skeleton.current s (.rcvCtx t)).map (·.rcvs t) = some (.gotCtx k g x) := by
  intro s h t k g x ht hx
  simp [step, (reach_nc cur_hyg cur_nochanclose h).nocrash, ht, hx,
    (by decide : Skeleton.current.bcRecvSelectsCallerCtx = true)]

/-- A receive function never blocks once its entry was freed or the broadcaster closed. -/
theorem C19_receive_returns_when_freed : ∀ s, Reach Skeleton.current s → ∀ t k g x,
    s.rcvs t = .waiting k g x → s.table k ≠ some g →
    (step Skeleton.current s (.rcvDone t)).map (·.rcvs t) = some (.gotClosed k g x) := by
  intro s h t k g x ht hk
  have hnc := reach_nc cur_hyg cur_nochanclose h
  obtain ⟨e, hent, he⟩ := (reach_wf h).rcv_waiting ht
  have hd := (done_iff_removed hnc (reach_wk cur_hyg cur_wakes h) hent).mpr (he ▸ hk)
  simp [step, hnc.nocrash, ht, hent, hd, (by decide : Skeleton.current.bcRecvSelectsDone = true)]

/-- The context error is returned only if that context is done; `closed` only if the entry
    really was freed / the broadcaster closed. -/
theorem C19_receive_outcomes_justified : ∀ s, Reach Skeleton.current s → ∀ t k g x,
    (s.rcvs t = .gotCtx k g x → s.ctxs x = true) ∧
    (s.rcvs t = .gotClosed k g x → s.table k ≠ some g) := by
  intro s h t k g x
  have hwk := reach_wk cur_hyg cur_wakes h
  refine ⟨hwk.got_ctx t k g x, fun ht => ?_⟩
  obtain ⟨e, hent, he⟩ := Option.map_eq_some_iff.mp ((reach_wf h).rcv_entry t k g (by simp [ht, Rcv.binding]))
  have hs := hwk.got_closed t k g x ht
  simp only [hent, Option.map_some, Option.some.injEq] at hs
  exact he ▸ hwk.sig_removed g e hent hs

/-- Free and Close can be called at any time, any number of times: always enabled, never a
    crash (covered by `C19_no_panic`), and a second Free of the same key changes nothing. -/
theorem C19_free_close_always_enabled : ∀ s, Reach Skeleton.current s → ∀ k,
    (step Skeleton.current s (.free k)).isSome = true ∧ (step Skeleton.current s .close).isSome = true := by
  intro s h k
  have hg : s.crashed = false ∧ s.lockHolder = none := ⟨(reach_nc cur_hyg cur_nochanclose h).nocrash, cur_lock_free s h⟩
  constructor
  · simp only [step, if_pos hg]
    (repeat' split) <;> rfl
  · simp [step, hg]

theorem C19_free_idempotent : ∀ s, Reach Skeleton.current s → ∀ k s1 s2,
    step Skeleton.current s (.free k) = some s1 → step Skeleton.current s1 (.free k) = some s2 →
    s2 = s1 := by
  intro s h k s1 s2 h1 h2
  have hdel : Skeleton.current.bcFreeDeletes = true := by decide
  have hc1 := (reach_nc cur_hyg cur_nochanclose (.step _ h h1)).nocrash
  -- the first `Free` found nothing to remove (and so does the second), or it removed the key from the table
  cases Step.of_step h1 with
  | freeNone => rw [h1] at h2; exact (Option.some.inj h2).symm
  | freePanic => cases hc1
  | free hc hl => simpa [step, hc, hl, hdel, eq_comm] using h2

/-! ### non-vacuity: the hypotheses are met by concrete reachable states -/

/-- a receiver is waiting, a publisher holds the entry, then the key is freed: the state in
    which `C19_publish_returns_when_freed` and `C19_receive_returns_when_freed` apply. -/
example : ∃ acts, (run Skeleton.current init acts).map
    (fun s => decide (s.pubs 0 = .holding 7 42 0 ∧ s.rcvs 0 = .waiting 7 0 1 ∧ s.table 7 ≠ some 0)) = some true :=
  ⟨[.receive 0 7 1, .rcvCall 0, .pubStart 0 7 42, .pubLookup 0, .free 7], rfl⟩

/-- a value is actually delivered -/
example : ∃ acts, (run Skeleton.current init acts).map
    (fun s => decide (s.rcvs 0 = .gotVal 7 0 1 42 ∧ s.deliveries.length = 1)) = some true :=
  ⟨[.receive 0 7 1, .rcvCall 0, .pubStart 0 7 42, .pubLookup 0, .rcvValue 0 0], rfl⟩

/-! ### the pinned tree violates the property (F1): two publishers, one receiver, one key -/

theorem C19_fails_on_pinned : ∃ acts, (run Skeleton.pinned init acts).map (·.crashed) = some true :=
  ⟨[.receive 0 7 1, .rcvCall 0, .pubStart 0 7 1, .pubStart 1 7 2, .pubLookup 0, .pubLookup 1,
    .rcvValue 0 0, .free 7, .pubSendClosed 1], rfl⟩

end Panrpc.Bc

#print axioms Panrpc.Bc.C19_model_atomicity
#print axioms Panrpc.Bc.C19_no_panic
#print axioms Panrpc.Bc.C19_at_most_one_receiver
#print axioms Panrpc.Bc.C19_no_cross_key
#print axioms Panrpc.Bc.C19_received_was_published
#print axioms Panrpc.Bc.C19_publish_unknown_returns
#print axioms Panrpc.Bc.C19_publish_returns_when_freed
#print axioms Panrpc.Bc.C19_receive_returns_on_ctx
#print axioms Panrpc.Bc.C19_receive_returns_when_freed
#print axioms Panrpc.Bc.C19_receive_outcomes_justified
#print axioms Panrpc.Bc.C19_free_close_always_enabled
#print axioms Panrpc.Bc.C19_free_idempotent
#print axioms Panrpc.Bc.C19_fails_on_pinned
