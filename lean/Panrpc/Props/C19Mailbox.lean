/-
  Props/C19Mailbox.lean — C19: M1 (the model of utils/broadcaster.go) refines the
  sequential per-key mailbox specification of Spec/Mailbox.lean.

  `Bc.abs` maps an M1 state to a mailbox state (generations = epochs, table = `live`; channels,
  closed signals, entry contexts, the lock, the crash flag and the `have`/`waiting` distinction
  are forgotten); `Bc.absAct` maps an M1 step to the mailbox operation it implements, or to
  nothing (`rcvCall` of a fresh receive function, `ctxPropagate`, and the crash steps, which are
  unreachable).  The property theorems are about `Skeleton.current` (the witness theorems say in their statements
  which other skeleton they are about): the general lemmas of
  Lemmas/BcMailbox.lean plus the same `by decide` source facts C19 rests on (`cur_hyg`,
  `cur_nochanclose`, `cur_wakes`; the atomicity reading of the model is `C19_model_atomicity`).
-/
import Panrpc.Lemmas.BcMailbox
import Panrpc.Props.C19

namespace Panrpc.Bc

/-- Forward simulation: every step the implementation model can take from a reachable state is
    invisible (`abs` unchanged) or is exactly the mailbox operation `absAct` names, enabled in the
    specification and with the same effect. -/
theorem C19_refines_mailbox_step : ∀ s, Reach Skeleton.current s → ∀ a s', step Skeleton.current s a = some s' →
    abs s' = abs s ∨ ∃ m, absAct s a = some m ∧ Mb.specStep (abs s) m = some (abs s') :=
  fun _ hr a _ hs => refines_step _ cur_hyg cur_nochanclose cur_wakes hr a hs

/-- Every reachable state of M1 abstracts to a reachable state of the mailbox specification:
    every property of the specification's reachable states holds of `abs s`. -/
theorem C19_refines_mailbox : ∀ s, Reach Skeleton.current s → Mb.Reach (abs s) :=
  fun _ => refines_reach _ cur_hyg cur_nochanclose cur_wakes

/-! ### the specification's trace properties, transferred -/

/-- (from `Mb.handoff_at_most_once`) a published value is handed to at most one receiver -/
theorem C19_mailbox_at_most_once : ∀ s, Reach Skeleton.current s → (s.deliveries.map Delivery.pub).Nodup := by
  intro s hr
  rw [← abs_handoffs_pub]
  exact Mb.handoff_at_most_once (C19_refines_mailbox s hr)

/-- (from `Mb.handoff_same_key`) …and never to a receiver of another key -/
theorem C19_mailbox_no_cross_key : ∀ s, Reach Skeleton.current s → ∀ d, d ∈ s.deliveries → d.pkey = d.rkey := by
  intro s hr d hd
  exact Mb.handoff_same_key (C19_refines_mailbox s hr) (absDel d)
    (by simp only [abs]; exact List.mem_map_of_mem hd)

/-- (from `Mb.handoff_same_epoch`) …nor of another registration of the same key: at every
    rendezvous the publisher and the receiver are bound to the same generation of the same key. -/
theorem C19_mailbox_no_cross_epoch : ∀ s, Reach Skeleton.current s → ∀ t p s',
    step Skeleton.current s (.rcvValue t p) = some s' →
    ∃ k g v x, absPub (s.pubs p) = .pending k v (some g) ∧ absRcv (s.rcvs t) = .bound k g x .none ∧
      absPub (s'.pubs p) = .delivered ∧ absRcv (s'.rcvs t) = .bound k g x (.val v) := by
  intro s hr t p s' hs
  exact Mb.handoff_same_epoch (refines_handoff hr hs)

/-! ### what the refinement needs from `Receive`: it fails only when the mailbox is closed -/

/-- The specification's `register` refuses a receiver only on a closed mailbox.  `C19_refines_mailbox_step`
    therefore rests on the source fact `bcReceiveErrorsOnlyClosed` (part of `cur_wakes`).  On the current
    tree with that ONE fact flipped (`Receive` also refuses a caller context that is done already) the
    simulation fails at the first such `Receive`: the receiver is refused on an OPEN mailbox and no entry is
    created, whereas the specification's `register` binds it to a fresh epoch — the step is neither a
    stutter nor the specification step. -/
theorem C19_refusing_a_done_context_is_no_mailbox_step :
    ((run { Skeleton.current with bcReceiveErrorsOnlyClosed := false } init [.ctxCancel 1]).bind fun s =>
      (step { Skeleton.current with bcReceiveErrorsOnlyClosed := false } s (.receive 0 7 1)).map fun s' =>
        decide (s'.rcvs 0 = .refusedCtx ∧ s'.closed = false ∧ s'.table 7 = none ∧
                (abs s).rcvs 0 = .absent ∧ (abs s').rcvs 0 = .refused ∧
                absAct s (.receive 0 7 1) = some (.register 0 7 1) ∧
                (Mb.specStep (abs s) (.register 0 7 1)).map (fun m => (m.rcvs 0, m.live 7)) =
                  some (.bound 7 0 1 .none, some 0))) = some true := by decide

/-- on the current tree the same `Receive` registers the receiver (the entry is born cancelled) -/
example : (run Skeleton.current init [.ctxCancel 1, .receive 0 7 1]).map
    (fun s => decide (s.rcvs 0 = .have 7 0 1 ∧ s.table 7 = some 0 ∧
                      (s.entries 0).map (·.ctxDone) = some true)) = some true := rfl

/-! ### non-vacuity -/

/-- the specification hands a value over… -/
example : (runFrom Mb.specStep Mb.init [.register 0 7 1, .publish 0 7 42, .lookup 0, .handoff 0 0]).map
    (fun m => decide (m.rcvs 0 = .bound 7 0 1 (.val 42) ∧ m.pubs 0 = .delivered ∧ m.handoffs.length = 1)) = some true :=
  rfl

/-- …refuses a hand-off across epochs (the key was freed and registered again in between)… -/
example : (runFrom Mb.specStep Mb.init
    [.register 0 7 1, .publish 0 7 42, .lookup 0, .free 7, .register 1 7 1]).map
    (fun m => (Mb.specStep m (.handoff 0 1)).isNone && (Mb.specStep m (.handoff 0 0)).isSome &&
              (Mb.specStep m (.giveUp 0)).isSome && (Mb.specStep m (.sayClosed 0)).isSome &&
              (Mb.specStep m (.sayClosed 1)).isNone) = some true := rfl

/-- …and an M1 run and the run of its image under `absAct` end in the same abstract state
    (observed at the threads, keys and contexts involved) -/
example :
    let acts : List Act := [.receive 0 7 1, .rcvCall 0, .pubStart 0 7 42, .pubStart 1 7 43, .pubLookup 0,
      .pubLookup 1, .rcvValue 0 0, .free 7, .pubCtx 1, .rcvCall 0, .rcvDone 0]
    let macts : List Mb.MAct := [.register 0 7 1, .publish 0 7 42, .publish 1 7 43, .lookup 0, .lookup 1,
      .handoff 0 0, .free 7, .giveUp 1, .again 0, .sayClosed 0]
    (run Skeleton.current init acts).bind (fun s => (runFrom Mb.specStep Mb.init macts).map (fun m =>
      decide ((abs s).pubs 0 = m.pubs 0 ∧ (abs s).pubs 1 = m.pubs 1 ∧ (abs s).rcvs 0 = m.rcvs 0 ∧
              (abs s).live 7 = m.live 7 ∧ (abs s).handoffs = m.handoffs ∧ (abs s).next = m.next ∧
              m.rcvs 0 = .bound 7 0 1 .closedErr ∧ m.pubs 1 = .dropped))) = some true := rfl

end Panrpc.Bc

#print axioms Panrpc.Bc.C19_refines_mailbox_step
#print axioms Panrpc.Bc.C19_refines_mailbox
#print axioms Panrpc.Bc.C19_mailbox_at_most_once
#print axioms Panrpc.Bc.C19_mailbox_no_cross_key
#print axioms Panrpc.Bc.C19_mailbox_no_cross_epoch
#print axioms Panrpc.Bc.C19_refusing_a_done_context_is_no_mailbox_step
