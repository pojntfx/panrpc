/-
  Props/C19Sections.lean — why `Receive` has to be ONE critical section (fact `bcReceiveOneSection`), as a model.

  M1 (`Model/Broadcaster`) treats `Receive` as one atomic step and lists the facts that justify that in `Bc.Atomic`.
  This file models the alternative the fact excludes, so that the obligation is more than a flag: a `Receive` whose
  closed check + lookup and whose insertion are TWO lock…unlock regions (`begin`, `finish`), racing with `Close`.
  With one region a closed broadcaster's table is empty for ever (everything a `Close` has to release has been
  released); with two regions one schedule of three steps leaves an entry — and with it the context and the waiter of
  the call that registered — in a closed table that nobody will close again.  (Seeded change MA-C15j is that schedule:
  one teardown in a hundred with calls just starting.)

  The effects of `Close` and the refusal of `Receive` on a closed broadcaster are the same `Skeleton` facts M1 uses.
-/
import Panrpc.Go.Prim
import Panrpc.Generated.Current

namespace Panrpc.BcSections

structure State where
  closed  : Bool
  table   : List Nat            -- keys that have an entry
  between : List (Nat × Nat)    -- receivers (thread, key) that have left the first region and not entered the second
  refused : List Nat            -- receivers that were refused
  deriving DecidableEq, Repr, Inhabited

def init : State := { closed := false, table := [], between := [], refused := [] }

inductive Act where
  | begin (t k : Nat)     -- `Receive`: lock, closed check, lookup — and, if it is one region, the insertion
  | finish (t : Nat)      -- the second region of a split `Receive`: lock, insert, unlock
  | close                 -- `Close`: one region (`bcCloseOneSection`)
  deriving DecidableEq, Repr, Inhabited

def step (sk : Skeleton) (s : State) : Act → Option State
  | .begin t k =>
    if s.closed = true ∧ sk.bcReceiveRefusesWhenClosed = true then
      some { s with refused := t :: s.refused }
    else if sk.bcReceiveOneSection = true then
      some { s with table := if k ∈ s.table then s.table else k :: s.table }
    else
      some { s with between := (t, k) :: s.between }
  | .finish t =>
    match s.between.find? (·.1 = t) with
    | some (_, k) =>
      some { s with between := s.between.filter (·.1 ≠ t),
                    table := if k ∈ s.table then s.table else k :: s.table }
    | none => none
  | .close =>
    some { s with closed := s.closed || sk.bcCloseSetsClosed,
                  table := if sk.bcCloseClearsTable = true then [] else s.table }

inductive Reach (sk : Skeleton) : State → Prop where
  | init : Reach sk init
  | step {s s' : State} (a : Act) : Reach sk s → step sk s a = some s' → Reach sk s'

def run (sk : Skeleton) (s : State) (acts : List Act) : Option State := runFrom (step sk) s acts

/-- the facts about `Receive` and `Close` the invariant needs -/
structure Sections (sk : Skeleton) : Prop where
  one     : sk.bcReceiveOneSection = true
  refuses : sk.bcReceiveRefusesWhenClosed = true
  clears  : sk.bcCloseClearsTable = true
  sets    : sk.bcCloseSetsClosed = true

theorem sections_current : Sections Skeleton.current := by constructor <;> decide

/-- with one region nobody is ever between two regions -/
theorem nobody_between (sk : Skeleton) (h : Sections sk) {s : State} (hr : Reach sk s) : s.between = [] := by
  induction hr with
  | init => rfl
  | step a _ hs ih =>
    cases a <;> simp only [step, h.one, h.refuses] at hs
    · repeat' split at hs
      all_goals first | (cases hs; simpa using ih) | simp_all
    · simp [ih] at hs
    · cases hs; simpa using ih

/-- **a closed broadcaster's table stays empty**: every entry that exists when `Close` runs is released by it, and no
    entry appears afterwards — so a link that has ended holds no pending call, no context and no waiter (C15), and a
    receiver is never handed a function that blocks on a closed broadcaster (C19, C03). -/
theorem closed_table_stays_empty (sk : Skeleton) (h : Sections sk) {s : State} (hr : Reach sk s) :
    s.closed = true → s.table = [] := by
  induction hr with
  | init => intro hc; simp [init] at hc
  | @step s s' a hr' hs ih =>
    have hb := nobody_between sk h hr'
    cases a <;> simp only [step, h.one, h.refuses, h.clears, h.sets] at hs
    · repeat' split at hs
      all_goals first | (cases hs; simp_all; done) | simp_all
    · simp [hb] at hs
    · cases hs; simp

/-- **the obligation is not idle**: split `Receive` into two regions and leave everything else as it is — three steps
    put an entry into a closed table. -/
def skSplitReceive : Skeleton := { Skeleton.current with bcReceiveOneSection := false }

theorem split_receive_registers_on_a_closed_broadcaster :
    (run skSplitReceive init [.begin 0 7, .close, .finish 0]).map (fun s => (s.closed, s.table)) = some (true, [7]) := by
  decide

/-- non-vacuity on the current tree: a receiver registers, `Close` releases it, a later receiver is refused -/
example : (run Skeleton.current init [.begin 0 7, .close, .begin 1 7]).map (fun s => (s.closed, s.table, s.refused))
    = some (true, [], [1]) := rfl

/-- the property-level statement, for the extracted skeleton -/
theorem C19_closed_broadcaster_holds_no_entry {s : State} (hr : Reach Skeleton.current s) (hc : s.closed = true) :
    s.table = [] := closed_table_stays_empty _ sections_current hr hc

end Panrpc.BcSections

#print axioms Panrpc.BcSections.sections_current
#print axioms Panrpc.BcSections.nobody_between
#print axioms Panrpc.BcSections.closed_table_stays_empty
#print axioms Panrpc.BcSections.split_receive_registers_on_a_closed_broadcaster
#print axioms Panrpc.BcSections.C19_closed_broadcaster_holds_no_entry
