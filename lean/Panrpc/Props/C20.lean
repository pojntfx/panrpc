/-
  Props/C20.lean — "No data races inside panrpc under concurrent use".

  Model: P6 (Model/Lockset.lean): a fragment of the Go memory model (mutex unlock→lock,
  close→receive-that-observes-close, program order) and the extractor's access table
  `Skeleton.current.accesses` (regenerated from /repo on every run).

  Shape of the argument:
    `lockset_race_free`  (Lemmas/Lockset.lean, once and for all)
        well-formed trace  ∧  threads follow a disciplined table   →   no race
    `C20_instance`       the regenerated table is disciplined            (by decide)
    `C20_race_free`      the two combined.

  TRUSTED (not proved here, see DESIGN.md section 9):
    * completeness of the extractor's enumeration: every variable that several goroutines can
      reach (fields of Registry / closureManager / Broadcaster behind a shared receiver,
      locals of LinkMessage / LinkStream captured by a function literal and written there)
      and every access site of it is in the table.  `go test -race` on the harness workloads
      is the dynamic cross-check of this, not a proof;
    * the lexical lock sets are the dynamic ones: a `Lock()`…`Unlock()`/`defer Unlock()`
      region found in the AST really brackets the access at run time, on the mutex instance
      that belongs to the variable's instance (same receiver / same LinkMessage activation);
      this is hypothesis `Follows` of the theorem;
    * for the `close:<chan>` entries: the writing site is executed by one goroutine per
      variable instance, which is also the only one that closes the channel, after the write
      (part of `Follows`; it is what the table's "all writes in one site, write followed by
      close(chan) in that site" records);
    * `sync.Cond.Wait` is unlock;park;lock of its `L` (so accesses after `Wait` are inside an
      `acq … rel` bracket), the memory model of https://go.dev/ref/mem itself, and everything
      inside `reflect`, `context`, `sync`, the runtime, and the user-supplied transport /
      serializer functions (C20 assumes those thread-safe).
-/
import Panrpc.Lemmas.Lockset
import Panrpc.Generated.Current
import Panrpc.Pinned

namespace Panrpc.Ls

/-- The regenerated access table satisfies the discipline: every variable is never written,
    or has one mutex held at every access, or is ordered by one close→receive edge. -/
theorem C20_instance : disciplined Skeleton.current.accesses = true := by decide

/-- **C20.**  Every well-formed interleaving of goroutines that access the shared variables
    the way the table records is free of data races. -/
theorem C20_race_free : ∀ tr : Trace, WF tr → Follows Skeleton.current.accesses tr →
    ∀ i j, ¬ Race tr i j :=
  lockset_race_free _ C20_instance

/-- the pinned tree's table is disciplined as well (C20 was expected to hold there) -/
theorem C20_instance_pinned : disciplined Skeleton.pinned.accesses = true := by decide

/-! ### non-vacuity -/

/-- an interleaving with all three kinds of variable: mutex-protected, close-ordered, read-only -/
def sample : Trace :=
  [ (0, .acq "b.lock"), (0, .wr "Broadcaster.closed"), (0, .rel "b.lock"),
    (2, .wr "LinkStream.decodeErr"),
    (1, .acq "b.lock"), (1, .rd "Broadcaster.closed"),
    (2, .closeCh "decodeDone"),
    (1, .rel "b.lock"),
    (3, .recvClosed "decodeDone"), (4, .rd "Registry.local"), (3, .rd "LinkStream.decodeErr"),
    (5, .rd "Registry.local") ]

theorem sample_ok : WF sample ∧ Follows Skeleton.current.accesses sample :=
  ⟨wf_of_wfB _ (by decide), follows_of_followsB _ _ (by decide)⟩

theorem sample_conflicts : Conflict sample 1 5 ∧ Conflict sample 3 10 :=
  ⟨⟨0, 1, .wr "Broadcaster.closed", .rd "Broadcaster.closed", "Broadcaster.closed", true, false,
     by decide, by decide, by decide, by decide, by decide, by decide⟩,
   ⟨2, 3, .wr "LinkStream.decodeErr", .rd "LinkStream.decodeErr", "LinkStream.decodeErr", true, false,
     by decide, by decide, by decide, by decide, by decide, by decide⟩⟩

/-- it meets both hypotheses of `C20_race_free` … -/
example : WF sample ∧ Follows Skeleton.current.accesses sample := sample_ok

/-- … and contains conflicting accesses (write at 1 / read at 5; write at 3 / read at 10), so
    the theorem's conclusion says something: they are ordered by happens-before. -/
example : Conflict sample 1 5 ∧ Conflict sample 3 10 := sample_conflicts

example : HB sample 1 5 ∧ HB sample 3 10 := by
  have h := C20_race_free sample sample_ok.1 sample_ok.2
  exact ⟨Classical.byContradiction fun hn => h 1 5 ⟨sample_conflicts.1, hn, fun hb => absurd (hb_lt hb) (by decide)⟩,
    Classical.byContradiction fun hn => h 3 10 ⟨sample_conflicts.2, hn, fun hb => absurd (hb_lt hb) (by decide)⟩⟩

/-! ### negative examples: the check and the race definition both bite -/

/-- a table with one unlocked write (beside a locked read) is rejected -/
example : disciplined
    [ { var := "Registry.remotes", site := "ForRemotes", write := false, locks := ["r.remotesLock"], order := "" },
      { var := "Registry.remotes", site := "LinkMessage.func7", write := true, locks := [], order := "" } ] = false :=
  rfl

/-- two sites under two different mutexes are rejected -/
example : disciplined
    [ { var := "v", site := "f", write := true, locks := ["a"], order := "" },
      { var := "v", site := "g", write := false, locks := ["b"], order := "" } ] = false :=
  rfl

/-- a `close:` write with a reader that does not wait for the close is rejected -/
example : disciplined
    [ { var := "LinkStream.decodeErr", site := "LinkStream.func1", write := true, locks := [], order := "close:decodeDone" },
      { var := "LinkStream.decodeErr", site := "LinkStream.func4", write := false, locks := [], order := "" } ] = false :=
  rfl

/-- an `init`-ordered write (a `go` edge, not modelled) is rejected rather than trusted -/
example : disciplined
    [ { var := "v", site := "f", write := true, locks := [], order := "init" },
      { var := "v", site := "g", write := false, locks := [], order := "" } ] = false :=
  rfl

/-- the unlocked write really races in the model: happens-before is not trivially total -/
def racy : Trace := [ (0, .wr "Registry.remotes"), (1, .acq "r.remotesLock"), (1, .rd "Registry.remotes") ]

/-- the only happens-before edge of `racy` is the program order of thread 1 -/
theorem racy_hb : ∀ i j, HB racy i j → i = 1 ∧ j = 2 := by
  intro i j h
  have bound : ∀ (k t : Nat) (e : Ev), racy[k]? = some (t, e) → k < 3 :=
    fun _ _ _ hk => (List.getElem?_eq_some_iff.mp hk).1
  induction h with
  | @po i j t e e' hlt h1 h2 =>
    have hj := bound _ _ _ h2
    have : (i = 0 ∧ j = 1) ∨ (i = 0 ∧ j = 2) ∨ (i = 1 ∧ j = 2) := by omega
    rcases this with ⟨rfl, rfl⟩ | ⟨rfl, rfl⟩ | ⟨rfl, rfl⟩
    · simp [racy] at h1 h2; omega
    · simp [racy] at h1 h2; omega
    · exact ⟨rfl, rfl⟩
  | @mutex i j _ _ _ hlt h1 h2 | @chan i j _ _ _ hlt h1 h2 =>
    have hj := bound _ _ _ h2
    have : i = 0 ∨ i = 1 := by omega
    rcases this with rfl | rfl <;> simp [racy] at h1
  | trans _ _ ih1 ih2 => omega

/-- thread 0 writes without the mutex while thread 1 reads under it: a race -/
theorem C20_unlocked_write_races : Race racy 0 2 :=
  ⟨⟨0, 1, .wr "Registry.remotes", .rd "Registry.remotes", "Registry.remotes", true, false,
     by decide, by decide, by decide, by decide, by decide, by decide⟩,
   fun h => absurd (racy_hb _ _ h).1 (by decide),
   fun h => absurd (racy_hb _ _ h).1 (by decide)⟩

/-- The lexical lock sets of the access table are the dynamic ones only if every user locks the SAME
    mutex object: each mutex is a pointer field, or a value field of a struct that is only ever used
    through a pointer (no value-receiver method copies it).  Checked against the regenerated skeleton. -/
theorem C20_locks_are_shared : Skeleton.current.locksShared = true := by decide

/-- The access table lists the variables goroutines share.  Variables of the closure proxy are not in
    it because each invocation has its own: the closure id, the stub and the argument list are declared
    inside the per-invocation literal (checked against the regenerated skeleton), so concurrent
    invocations of one callable share no panrpc memory. -/
theorem C20_proxy_state_is_per_invocation :
    Skeleton.current.pxClosureIdPerInvocation = true ∧ Skeleton.current.pxArgsFreshPerInvocation = true ∧
    Skeleton.current.pxCtxIsInvocationCtx = true := by decide

/-- The hook structs belong to the application; one `LinkHooks` value may be handed to many concurrently established
    links. The library never assigns to a field of one (checked against the regenerated skeleton) — filling in no-op
    callbacks in place would be an unsynchronised check-then-write on shared memory. -/
theorem C20_hook_structs_are_only_read :
    Skeleton.current.hooksNeverWritten = true := by decide

end Panrpc.Ls

#print axioms Panrpc.Ls.lockset_race_free
#print axioms Panrpc.Ls.C20_instance
#print axioms Panrpc.Ls.C20_race_free
#print axioms Panrpc.Ls.C20_instance_pinned
#print axioms Panrpc.Ls.C20_unlocked_write_races
#print axioms Panrpc.Ls.C20_locks_are_shared
#print axioms Panrpc.Ls.C20_proxy_state_is_per_invocation
#print axioms Panrpc.Ls.C20_hook_structs_are_only_read
