/-
  Props/Compose.lean — composition theorems: bridges between the focused models that DESIGN.md
  section 7 states in prose.

  1. C11 ("exactly once") = C01 applied to the `CallClosure` call.  A closure invocation IS a call
     of the built-in function `CallClosure` through the same link in the opposite direction
     (rpc/registry.go: the proxy built in `findLocalFunctionToCallRecursively` calls
     `makeRPC(ctx, "CallClosure", …)`; the request is served by the closure owner's request
     loop like any other).  So M3 (Model/System.lean) covers it verbatim — M3 puts no condition
     on `fn`, its endpoints are symmetric, and a call may have a handler thread as parent — and
     P4 (Model/Convert.lean) says what the one invocation M3 guarantees does with its arguments.
     WHAT IS ASSUMED, not derived (`ClosureReading`): M3's argument tuple is an abstract `Nat`;
     `argsOf a` is the argument list that the number `a` stands for.  M3 proves that the number
     travels unchanged from the call thread to the one invocation record; P4 says what the
     wrapper does with the list.  The two models share no state; the bridge is this reading.

  2. C18 naming = P2's stub names composed with P1's lookup on a MIRRORED local object
     (`mirror`, Lemmas/Mirror.lean), for every remote definition — all depths, all shapes.
     `Rw.C18_naming_agrees` alone says that the function string splits back into the stub's
     path; here the callee's lookup model is actually run on that string: it resolves to the
     method of the same name of the object at the same path.  The two models' `splitOnDot` are
     proved equal (`splitOnDot_agree`); the proof goes through `Lk.joinPath` / `C07_complete`.

  All theorems are about `Skeleton.current`.
-/
import Panrpc.Lemmas.Mirror
import Panrpc.Props.C01
import Panrpc.Props.C07
import Panrpc.Props.C11
import Panrpc.Props.C18

namespace Panrpc.Compose

/-! ## 1. C11: a closure invocation is a `CallClosure` call of M3 -/

/-- the function code that stands, in M3, for the function string "CallClosure" (M3 treats
    function names as opaque numbers; any constant will do) -/
def fnCallClosure : Nat := 0

/-- How M3's abstract argument tuple is read when the call is a closure invocation: `argsOf a` is
    the argument list (closure id aside) that the number `a` stands for, if any.  ASSUMED — any
    function is a possible reading; the theorems hold for all of them. -/
structure ClosureReading where
  argsOf : Nat → Option (List Cv.TVal)

/-- `C11_invocation_runs_once`, the M3 half.  In every reachable state of the two-endpoint system
    — any number of closure invocations and ordinary calls in flight at once, in both directions,
    nested inside handlers or not, frames reordered and delayed at will — there is at most one
    invocation record per endpoint and call id; and for every RETURNED call of `CallClosure`
    there is exactly one invocation record on the peer (the closure owner) for it: it is an
    entry of `CallClosure`, with that call's argument tuple, and what it returned is what the
    call returned with. -/
theorem C11_invocation_runs_once : ∀ s, Sys.Reach Skeleton.current s →
    (∀ e k, Sys.invCountCall s.invocations e k ≤ 1) ∧
    ∀ e t, (s.calls e t).fn = fnCallClosure → (s.calls e t).pc = .returned →
      ∃ v err r, (s.calls e t).result = some (v, err) ∧
        r ∈ s.invocations ∧ r.ep = Sys.peer e ∧ r.call = (s.calls e t).id ∧
        r.fn = fnCallClosure ∧ r.args = (s.calls e t).args ∧ r.ret = some (v, err) ∧
        (∀ r', r' ∈ s.invocations → r'.ep = Sys.peer e → r'.call = (s.calls e t).id → r' = r) ∧
        Sys.invCountCall s.invocations (Sys.peer e) (s.calls e t).id = 1 := by
  intro s hr
  refine ⟨(Sys.C01_at_most_one_invocation s hr).1, ?_⟩
  intro e t hfn hpc
  obtain ⟨v, err, hres⟩ := Sys.C01_returned_has_result s hr e t hpc
  obtain ⟨r, h1, h2, h3, h4, h5, h6, h7, h8⟩ := Sys.C01_result_is_own s hr e t v err hres
  exact ⟨v, err, r, hres, h1, h2, h3, h4.trans hfn, h5, h6, h7, h8⟩

/-- `C11_invocation_runs_once`, composed with P4.  Read M3's argument tuples by `R`.  If the
    callee's proxy was invoked with the well-typed supported values `vals` (the `CallClosure`
    call's argument tuple stands for `vals`) and that call has returned, then:
    * exactly one invocation record exists on the closure owner for it, it is an entry of
      `CallClosure`, and the argument tuple it carries stands for the same `vals`;
    * executing that entry (`Cv.wrapper` on the generically decoded list, either codec) reaches
      the user function — once, `.ran` — with exactly `vals`, as values of their declared types;
    * whatever value and error the function returns, the wrapper hands back unchanged
      (`Cv.C11_wrapper_hands_back`), and what M3 records as that invocation's return is what
      this call — and, the record being the only one for its id, no other call — returned with. -/
theorem C11_invocation_runs_function_once (R : ClosureReading) (c : Cv.Codec) :
    ∀ s, Sys.Reach Skeleton.current s → ∀ e t (vals : List Cv.TVal),
      (s.calls e t).fn = fnCallClosure → R.argsOf (s.calls e t).args = some vals →
      (s.calls e t).pc = .returned → (∀ v, v ∈ vals → v.wt = true) →
      ∃ r, r ∈ s.invocations ∧ r.ep = Sys.peer e ∧ r.call = (s.calls e t).id ∧ r.fn = fnCallClosure ∧
        (∀ r', r' ∈ s.invocations → r'.ep = Sys.peer e → r'.call = (s.calls e t).id → r' = r) ∧
        R.argsOf r.args = some vals ∧
        Cv.wrapper Skeleton.current (vals.map Cv.TVal.ty) (vals.map (Cv.genericOf c))
          = .ran (vals.map Cv.TVal.embed) ∧
        (∀ gv eo, Cv.wrapperReturn Skeleton.current (.ret2 gv eo) = some { value := some gv, err := eo }) ∧
        (∃ v err, r.ret = some (v, err) ∧ (s.calls e t).result = some (v, err)) := by
  intro s hr e t vals hfn hargs hpc hwt
  obtain ⟨v, err, r, hres, h1, h2, h3, h4, h5, h6, h7, -⟩ := (C11_invocation_runs_once s hr).2 e t hfn hpc
  exact ⟨r, h1, h2, h3, h4, h7, by rw [h5]; exact hargs, Cv.C11_args_converted_nil_included c vals hwt,
    fun gv eo => (Cv.C11_wrapper_hands_back gv eo).1, v, err, h6, hres⟩

/-- a reading (so the theorem is not vacuous): the number `n` stands for the one-element list `[n]` -/
example : ClosureReading := ⟨fun n => some [.uint n]⟩

/-- non-vacuity: a closure invocation inside a handler.  A calls B (call 0); B's handler invokes
    the closure it was passed = calls `CallClosure` on A (call 0 of B, parent: that handler);
    A's request loop serves it; it returns `(7, 0)`; then the outer call returns.  Both calls
    have exactly one invocation record. -/
example : (Sys.run Skeleton.current Sys.init
    [.callStart .A 5 1, .callWrite .A 0, .reqDeliver .B 0, .handlerEnter .B 0,
     .handlerCallPeer .B 0 fnCallClosure 42, .callWrite .B 0, .reqDeliver .A 0, .handlerEnter .A 0,
     .handlerReturn .A 0 7 0, .respond .A 0, .resDeliver .B 0, .publish .B 0 0, .callReturn .B 0,
     .handlerNestedDone .B 0, .handlerReturn .B 0 9 0, .respond .B 0, .resDeliver .A 0,
     .publish .A 0 0, .callReturn .A 0]).map
    (fun s => decide ((s.calls .B 0).fn = fnCallClosure ∧ (s.calls .B 0).pc = .returned ∧
      (s.calls .B 0).parent = some (.B, 0) ∧ (s.calls .B 0).result = some (7, 0) ∧
      s.invocations.map (fun r => (r.ep, r.fn, r.args, r.ret)) =
        [(.B, 5, 1, some (9, 0)), (.A, fnCallClosure, 42, some (7, 0))])) = some true := rfl

/-! ## 2. C18: caller-side naming composed with callee-side lookup -/

open Rw (Field Sig)

/-- `C18_naming_agrees`, composed with the lookup model.  Let `fs` be a remote definition whose
    sibling field names are distinct at every level and whose names are non-empty and dot-free,
    and let `Link` succeed on it with the stubs `stubs`.  Then for EVERY installed stub `(p, fn)`:
    `p = P ++ [F]` for a path `P` of exported struct fields ending at the exported func field `F`;
    the stub sends `Request.Function = fn = P.F` joined with dots; and on the peer that exposes
    the mirrored object — every nested struct field a by-value struct field, every func field
    `F` at path `P` a method `F` of the struct at `P` with the same parameter count — the request
    `{Function: fn, Args: numIn - 1 values}` (the stub drops the context) resolves to exactly
    the method `F` of exactly the object at `P`.  For all shapes and depths. -/
theorem C18_naming_agrees_with_lookup : ∀ (fs : List Field) (stubs : List (List String × String)),
    WFDef fs → (∀ n ∈ Rw.names fs, n ≠ "" ∧ '.' ∉ n.toList) →
    Rw.walk Skeleton.current "" false fs = .ok stubs →
    ∀ p fn, (p, fn) ∈ stubs →
      ∃ P F sig inst, p = P ++ [F] ∧ HasFunc fs P F sig ∧ instAt 0 fs P = some inst ∧
        fn = ".".intercalate p ∧ Rw.splitOnDot fn.toList = Lk.splitOnDot fn.toList ∧
        Lk.resolve Skeleton.current (mirror fs).1 (some (mirror fs).2) fn (sig.numIn - 1) = .runs inst F := by
  intro fs stubs hwf hnames hwalk p fn hmem
  -- caller side
  obtain ⟨hfn, -⟩ := Rw.C18_naming_agrees fs stubs hnames hwalk p fn hmem
  obtain ⟨x, hx, hset, hval, rfl, -⟩ := Rw.walk_stub_mem _ Rw.cur_rwstd fs stubs hwalk p fn hmem
  obtain ⟨-, P, F, hp, hfunc⟩ := funcs_hasFunc false fs x hx hset
  obtain ⟨_, hin⟩ := Rw.funcs_path false fs x hx
  have hnm : ∀ s, s ∈ x.path → s ≠ "" ∧ '.' ∉ s.toList := fun s hs => hnames s (hin s hs)
  -- callee side
  have hshape := mirror_wf fs hwf
  obtain ⟨inst, hinst, hexp⟩ := mirror_exposed (mirror fs).1 (Lk.wfShape_names hshape) hfunc 0
    (mirror_at fs).1 (mirror_at fs).2 hwf (fun n hn => (hnm n (by rw [hp]; simp [hn])).1)
  refine ⟨P, F, x.sig, inst, hp, hfunc, hinst, hfn, splitOnDot_agree _, ?_⟩
  have hargs : x.sig.numIn - 1 + 1 = x.sig.numIn := by have := hval.2.2.1; omega
  have := Lk.C07_complete (mirror fs).1 (some (mirror fs).2) hshape P F inst (x.sig.numIn - 1)
    ⟨_, rfl, by rw [hargs]; exact hexp⟩
    (fun s hs => (hnm s (by rw [hp]; exact hs)).2) (hnm F (by rw [hp]; simp)).1
  rwa [hfn, hp, ← Lk.joinPath_eq_intercalate]


/-- The objects of the mirror are pairwise distinct (numbered `0, 1, …` in pre-order), so "the
    object at `P`" identifies one struct node of the remote definition. -/
theorem C18_mirror_objects_distinct (fs : List Field) :
    instsV (mirror fs).2 = List.range (1 + sizeL fs) ∧ (instsV (mirror fs).2).Nodup :=
  ⟨mirror_insts fs, mirror_insts fs ▸ List.nodup_range⟩

/-! ### non-vacuity: the depth-3 definition of Props/C18.lean, and two siblings with equal inner names -/

example : mirror Rw.exDeep =
  ([.struct [⟨"Inner", true, false, 1⟩] [⟨"Ok", true, 1⟩, ⟨"Last", true, 1⟩],
    .struct [⟨"Deep", true, false, 2⟩] [⟨"Get", true, 3⟩],
    .struct [] [⟨"Leaf", true, 1⟩]],
   .struct 0 0 [.struct 1 1 [.struct 2 2 []]]) := by rfl

example : WFDef Rw.exDeep := by decide
example : Lk.WFShape (mirror Rw.exDeep).1 (some (mirror Rw.exDeep).2) := rfl
example : instAt 0 Rw.exDeep ["Inner", "Deep"] = some 2 := rfl

/-- every stub of `exDeep` (see Props/C18.lean for the list), sent with its argument count,
    runs the method of the same name on the object at its path -/
example : (["Ok", "Inner.Get", "Inner.Deep.Leaf", "Last"].zip [0, 2, 0, 0]).map
    (fun q => Lk.resolve Skeleton.current (mirror Rw.exDeep).1 (some (mirror Rw.exDeep).2) q.1 q.2) =
    [.runs 0 "Ok", .runs 1 "Get", .runs 2 "Leaf", .runs 0 "Last"] := rfl

/-- a wrong argument count, a partial path, a path that does not exist: rejected -/
example : Lk.resolve Skeleton.current (mirror Rw.exDeep).1 (some (mirror Rw.exDeep).2) "Inner.Get" 0
    = .rejected Lk.errArgCount := rfl
example : (Lk.resolve Skeleton.current (mirror Rw.exDeep).1 (some (mirror Rw.exDeep).2) "Inner.Deep" 0).isRejected
    = true := rfl
example : (Lk.resolve Skeleton.current (mirror Rw.exDeep).1 (some (mirror Rw.exDeep).2) "Deep.Leaf" 0).isRejected
    = true := rfl

/-- `struct{ A struct{ F func(ctx) error }; x int; B struct{ F func(ctx) error; C struct{ F … } } }`:
    the three `F`s are told apart by the object they run on -/
def exSiblings : List Field :=
  [ .struct "A" true [ .func "F" true Rw.sigCtxErr ], .other "x" false,
    .struct "B" true [ .func "F" true Rw.sigCtxErr, .struct "C" true [ .func "F" true Rw.sigCtxValErr ] ] ]

example : WFDef exSiblings ∧ ∀ n ∈ Rw.names exSiblings, n ≠ "" ∧ '.' ∉ n.toList := by decide
example : Rw.walk Skeleton.current "" false exSiblings =
    .ok [(["A", "F"], "A.F"), (["B", "F"], "B.F"), (["B", "C", "F"], "B.C.F")] := rfl
example : (["A.F", "B.F", "B.C.F"].zip [0, 0, 2]).map
    (fun q => Lk.resolve Skeleton.current (mirror exSiblings).1 (some (mirror exSiblings).2) q.1 q.2) =
    [.runs 1 "F", .runs 2 "F", .runs 3 "F"] := rfl

/-- the hypothesis `WFDef` is not met by two sibling fields of the same name (Go rejects such a type) -/
example : ¬ WFDef [ .struct "A" true [], .func "A" true Rw.sigCtxErr ] := by decide

end Panrpc.Compose

#print axioms Panrpc.Compose.C11_invocation_runs_once
#print axioms Panrpc.Compose.C11_invocation_runs_function_once
#print axioms Panrpc.Compose.C18_naming_agrees_with_lookup
#print axioms Panrpc.Compose.C18_mirror_objects_distinct
