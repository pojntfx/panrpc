/-
  Props/Foundation.lean — the contract of the shared infrastructure that EVERY call-level model assumes.

  A call, a closure invocation or a response of panrpc passes through `utils.Call`, the pending-call table
  (`utils.Broadcaster`), the codec methods of `utils/messages.go` and — when functions are passed — the closure
  manager.  The models of the call-level properties (C01–C06, C08–C13, C15–C17, C20) describe the mechanism in the
  files a property is anchored in and take this infrastructure as given.  Rounds 6–8 of the seeded changes broke
  properties through exactly these files: half of those changes passed the check of the property they broke, because
  the relevant fact was an obligation only of the properties anchored in that file.  This module states the contract
  once; `check` attaches it to every call-level property (not to C07, C14, C18, C19, whose models do not run calls
  through it), so that a change to the infrastructure is never invisible to a property that relies on it.  When one
  of these obligations fails and the property's own search finds no failing input, the check reports that the
  property "is no longer shown to hold" (`no-failing-input-found`) — which is what has happened: the model's
  assumption about the code is gone.
-/
import Panrpc.Generated.Current

namespace Panrpc.Foundation

/-- `utils.Call`: one reflect call under a deferred recover that turns every panic into an error (non-error values
    mapped), re-raises none, hands the results back untouched and waits for nothing. -/
theorem infra_utils_call :
    Skeleton.current.ucRecovers = true ∧ Skeleton.current.ucNonErrorPanicMapped = true ∧
    Skeleton.current.ucResultsUntouched = true ∧ Skeleton.current.ucNoWaiting = true := by decide

/-- No package-level state anywhere in the library: nothing an invocation leaves behind can meet another one. -/
theorem infra_no_package_state : Skeleton.current.stateGlobals = [] := by decide

/-- The pending-call table: `Receive` fails only when the table is closed; the receive function listens to the
    value channel, the caller's context and the closed signal, and yields `ErrClosed` — nothing else — for the latter;
    `Publish` waits outside the lock, and the response loop publishes and forgets: nothing — in particular no
    `setErr` — hangs on whether somebody took the value, so a response nobody waits for (its call was cancelled, has
    ended, never existed) is dropped whatever it carries. -/
theorem infra_pending_call_table :
    Skeleton.current.respPublishFireAndForget = true ∧
    Skeleton.current.bcReceiveErrorsOnlyClosed = true ∧ Skeleton.current.bcRecvSelectsDone = true ∧
    Skeleton.current.bcRecvSelectsCallerCtx = true ∧ Skeleton.current.bcRecvSelectsChan = true ∧
    Skeleton.current.bcPublishSelectOutsideLock = true ∧ Skeleton.current.bcPublishLooksUpUnderLock = true := by decide

/-- Failures of the link, and only those, travel as panics into `setErr`: every `panic(…)` hands on a tested error,
    a sentinel or a context's error; the recover blocks are canonical; every error branch reports and leaves — and the
    responder leaves ONLY that way: a request is answered or the link ends. -/
theorem infra_failures_reach_setErr :
    Skeleton.current.respEveryReturnReports = true ∧
    Skeleton.current.panicSitesCanonical = true ∧ Skeleton.current.recoverBlocksCanonical = true ∧
    Skeleton.current.errBranchesHandled = true ∧ Skeleton.current.locksBalanced = true := by decide

/-- The four codec methods hand the struct itself to the user's function and do nothing else. -/
theorem infra_codec_methods_plain : Skeleton.current.msgCodecPlain = true := by decide

/-- The closure manager: fresh ids, the table holds `createClosure`'s wrapper itself, the mutex is not held across
    a closure body, the release waits for nobody, every argument is converted, a nil result of a concrete error type
    is no error, the user's function runs under `utils.Call`, and the only exported method is `CallClosure`. -/
theorem infra_closure_manager :
    Skeleton.current.clIdFresh = true ∧ Skeleton.current.clStoresCreatedClosure = true ∧
    Skeleton.current.clInvokeOutsideLock = true ∧ Skeleton.current.clFreeNeverWaits = true ∧
    Skeleton.current.clConvertsEveryArg = true ∧ Skeleton.current.clNilErrorViaIsNil = true ∧
    Skeleton.current.clCallViaUtilsCall = true ∧ Skeleton.current.lkClosureManagerMethods = ["CallClosure"] := by decide

/-- The read loops and the wrappers around the transport functions never wait for anything but the transport; every
    frame has its own decode target. -/
theorem infra_loops_and_wrappers :
    Skeleton.current.reqLoopBlocksOnlyOnRead = true ∧ Skeleton.current.respLoopBlocksOnlyOnRead = true ∧
    Skeleton.current.ioWrappersNonBlocking = true ∧ Skeleton.current.reqFrameFreshPerIteration = true ∧
    Skeleton.current.respFrameFreshPerIteration = true := by decide

/-- The stream adapter (`LinkStream`): the decoder hands EVERY non-nil member of an envelope on (request and response
    independently), guards each hand-off with the link's context, declares a fresh envelope per frame, and closes its
    done signal exactly once per exit. -/
theorem infra_stream_decoder :
    Skeleton.current.stDecoderHandsRequests = true ∧ Skeleton.current.stDecoderHandsResponses = true ∧
    Skeleton.current.stHandoffGuarded = true ∧ Skeleton.current.stAbortClosesDone = true ∧
    Skeleton.current.stDoneClosedOncePerExit = true ∧ Skeleton.current.stMsgFreshPerIteration = true := by decide

/-- The callee-side closure proxy: closure id, argument list, context and stub are per INVOCATION (the id is decoded
    from the argument at the proxy's own position), a nil result is checked before it is converted, and its recover
    block reports to `setErr`. -/
theorem infra_closure_proxy :
    Skeleton.current.pxClosureIdPerInvocation = true ∧ Skeleton.current.pxCtxIsInvocationCtx = true ∧
    Skeleton.current.pxRecoverReports = true ∧ Skeleton.current.pxResultChecksValid = true ∧
    Skeleton.current.cvHandlesInvalid = true := by decide

end Panrpc.Foundation

#print axioms Panrpc.Foundation.infra_utils_call
#print axioms Panrpc.Foundation.infra_no_package_state
#print axioms Panrpc.Foundation.infra_pending_call_table
#print axioms Panrpc.Foundation.infra_failures_reach_setErr
#print axioms Panrpc.Foundation.infra_codec_methods_plain
#print axioms Panrpc.Foundation.infra_closure_manager
#print axioms Panrpc.Foundation.infra_loops_and_wrappers
#print axioms Panrpc.Foundation.infra_stream_decoder
#print axioms Panrpc.Foundation.infra_closure_proxy
