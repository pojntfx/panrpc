/-
  Spec/Mailbox.lean — what the publish/receive utility is FOR, written without looking at its
  implementation: a sequential mailbox per key (C19).

  A key is *registered* by the first `Receive` on it and stays so until it is freed or the whole
  mailbox is closed; every registration gets a fresh *epoch*.  Receivers bind to the current epoch
  of their key; a publisher binds, at its lookup, to the epoch that is current then.  A value
  changes hands only between a publisher and a receiver bound to the same epoch of the same key,
  once.  A publisher gives up only when its epoch is gone (freed / closed) or the epoch's context
  is done; a receiver reports its context's error only when that context is done, and `closed`
  only when its epoch is gone.  There are no locks, channels, entries or goroutines here: each
  operation is one atomic step `specStep : MState → MAct → Option MState` (`none` = precondition
  not met).

  Two things one might expect and that are deliberately NOT required, because the code does not
  promise them: a hand-off may still happen after the epoch was freed (publisher and receiver
  both already stand at the channel; Go's select may pick that case), and a receive function may
  be called again after it returned (`again`).
-/
import Panrpc.Go.Prim

namespace Panrpc.Mb
open Panrpc

/-- a publisher (one `Publish` call) -/
inductive PStat where
  | absent
  | pending (key val : Nat) (epoch : Option Nat)   -- `none`: has not looked the key up yet
  | delivered
  | dropped                                        -- returned without delivering
  deriving DecidableEq, Repr, Inhabited

inductive ROut where
  | none | val (v : Nat) | ctxErr | closedErr
  deriving DecidableEq, Repr, Inhabited

/-- a receiver (one `Receive` call and the function it returned) -/
inductive RStat where
  | absent
  | refused                                        -- the mailbox was closed already
  | bound (key epoch ctx : Nat) (out : ROut)       -- `out = none`: no result (yet)
  deriving DecidableEq, Repr, Inhabited

structure Handoff where
  pub : Nat
  rcv : Nat
  pkey : Nat   -- the key the value was published on
  rkey : Nat   -- the key the receiver registered
  val : Nat
  deriving DecidableEq, Repr, Inhabited

@[ext] structure MState where
  closed   : Bool
  live     : Nat → Option Nat      -- key → epoch of its current registration
  next     : Nat                   -- epochs are fresh
  owner    : Nat → Nat             -- epoch → the context it was registered with
  done     : Nat → Bool            -- contexts: cancelled?
  pubs     : Nat → PStat
  rcvs     : Nat → RStat
  handoffs : List Handoff          -- ghost: every hand-off, newest first

def init : MState :=
  { closed := false, live := fun _ => none, next := 0, owner := fun _ => 0, done := fun _ => false,
    pubs := fun _ => .absent, rcvs := fun _ => .absent, handoffs := [] }

inductive MAct where
  | register (t k x : Nat)   -- Receive(k, ctx x)
  | again (t : Nat)          -- the receive function is called (again)
  | publish (p k v : Nat)    -- Publish(k, v) begins
  | lookup (p : Nat)         -- … binds to the current epoch of k, or returns at once
  | handoff (p t : Nat)
  | giveUp (p : Nat)         -- Publish returns undelivered
  | timeout (t : Nat)        -- the receive function returns ctx.Err()
  | sayClosed (t : Nat)      -- the receive function returns ErrClosed
  | free (k : Nat)
  | close
  | cancel (x : Nat)
  deriving DecidableEq, Repr, Inhabited

def specStep (m : MState) : MAct → Option MState
  | .register t k x =>
    if m.rcvs t = .absent then
      if m.closed = true then some { m with rcvs := upd m.rcvs t .refused }
      else match m.live k with
        | some e => some { m with rcvs := upd m.rcvs t (.bound k e x .none) }
        | none => some { m with live := upd m.live k (some m.next), owner := upd m.owner m.next x,
                                next := m.next + 1, rcvs := upd m.rcvs t (.bound k m.next x .none) }
    else none
  | .again t =>
    match m.rcvs t with
    | .bound k e x _ => some { m with rcvs := upd m.rcvs t (.bound k e x .none) }
    | _ => none
  | .publish p k v =>
    if m.pubs p = .absent then some { m with pubs := upd m.pubs p (.pending k v none) } else none
  | .lookup p =>
    match m.pubs p with
    | .pending k v none =>
      if m.closed = true then some { m with pubs := upd m.pubs p .dropped }
      else match m.live k with
        | none => some { m with pubs := upd m.pubs p .dropped }           -- unknown key: returns at once
        | some e => some { m with pubs := upd m.pubs p (.pending k v (some e)) }
    | _ => none
  | .handoff p t =>
    match m.pubs p, m.rcvs t with
    | .pending pk v (some pe), .bound rk re x .none =>
      if pk = rk ∧ pe = re then                                           -- same key, same epoch
        some { m with pubs := upd m.pubs p .delivered, rcvs := upd m.rcvs t (.bound rk re x (.val v)),
                      handoffs := { pub := p, rcv := t, pkey := pk, rkey := rk, val := v } :: m.handoffs }
      else none
    | _, _ => none
  | .giveUp p =>
    match m.pubs p with
    | .pending k _ (some e) =>
      if m.live k ≠ some e ∨ m.done (m.owner e) = true ∨ m.closed = true then
        some { m with pubs := upd m.pubs p .dropped }
      else none
    | _ => none
  | .timeout t =>
    match m.rcvs t with
    | .bound k e x .none => if m.done x = true then some { m with rcvs := upd m.rcvs t (.bound k e x .ctxErr) } else none
    | _ => none
  | .sayClosed t =>
    match m.rcvs t with
    | .bound k e x .none => if m.live k ≠ some e then some { m with rcvs := upd m.rcvs t (.bound k e x .closedErr) } else none
    | _ => none
  | .free k => some { m with live := upd m.live k none }
  | .close => some { m with live := fun _ => none, closed := true }
  | .cancel x => some { m with done := upd m.done x true }

inductive Reach : MState → Prop where
  | init : Reach init
  | step {m m' : MState} (a : MAct) : Reach m → specStep m a = some m' → Reach m'

/-- The log grows at a hand-off only, by an entry on one key for a publisher that was pending and is `delivered` from
    then on: so every logged publisher is `delivered`, on the key its receiver registered, and logged once. -/
theorem log_inv {m : MState} (h : Reach m) :
    (∀ d, d ∈ m.handoffs → m.pubs d.pub = .delivered ∧ d.pkey = d.rkey) ∧ (m.handoffs.map Handoff.pub).Nodup := by
  induction h with
  | init => simp [init]
  | step a _ hs ih =>
    cases a <;> simp only [specStep] at hs
    all_goals (repeat' split at hs) <;> (try simp at hs) <;> (try subst hs)
    all_goals first
      | exact ih
      | (obtain ⟨ih1, ih2⟩ := ih; refine ⟨?_, ?_⟩ <;> grind [List.nodup_cons])

/-- A value is handed off at most once: no publisher occurs twice in the log. -/
theorem handoff_at_most_once {m : MState} (h : Reach m) : (m.handoffs.map Handoff.pub).Nodup := (log_inv h).2

/-- Hand-offs never cross keys… -/
theorem handoff_same_key {m : MState} (h : Reach m) : ∀ d, d ∈ m.handoffs → d.pkey = d.rkey :=
  fun d hd => ((log_inv h).1 d hd).2

/-- …nor epochs: whenever a hand-off happens, both parties are bound to the same epoch of the
    same key, the publisher is still pending and the receiver has no result yet. -/
theorem handoff_same_epoch {m m' : MState} {p t : Nat} (hs : specStep m (.handoff p t) = some m') :
    ∃ k e v x, m.pubs p = .pending k v (some e) ∧ m.rcvs t = .bound k e x .none ∧
      m'.pubs p = .delivered ∧ m'.rcvs t = .bound k e x (.val v) := by
  simp only [specStep] at hs
  split at hs
  · rename_i pk v pe rk re x hp hr
    split at hs
    · rename_i hk
      obtain ⟨rfl, rfl⟩ := hk
      simp at hs; subst hs
      refine ⟨pk, pe, v, x, hp, hr, by simp, by simp⟩
    · simp at hs
  · simp at hs

end Panrpc.Mb
